-- generated by harness/genroot.py: every module of the library (models, drivers, Gen, proofs, property theorems)
import NessaiVerif.Driver
import NessaiVerif.Driver.Accounts
import NessaiVerif.Driver.Batch
import NessaiVerif.Driver.CrashFS
import NessaiVerif.Driver.Encode
import NessaiVerif.Driver.Flow
import NessaiVerif.Driver.Interrupt
import NessaiVerif.Driver.LivePoint
import NessaiVerif.Driver.LiveSet
import NessaiVerif.Driver.Loops
import NessaiVerif.Driver.Meta
import NessaiVerif.Driver.NpPrim
import NessaiVerif.Driver.Ordered
import NessaiVerif.Driver.Parse
import NessaiVerif.Driver.Pool
import NessaiVerif.Driver.Quad
import NessaiVerif.Driver.Reparam
import NessaiVerif.Driver.Resample
import NessaiVerif.Driver.Results
import NessaiVerif.Driver.Tables
import NessaiVerif.Driver.Term
import NessaiVerif.Driver.Threshold
import NessaiVerif.Gen.Accounts
import NessaiVerif.Gen.BatchTx
import NessaiVerif.Gen.CrashFS
import NessaiVerif.Gen.Encode
import NessaiVerif.Gen.FlowTrain
import NessaiVerif.Gen.Increment
import NessaiVerif.Gen.InsState
import NessaiVerif.Gen.Interrupt
import NessaiVerif.Gen.LivePointTx
import NessaiVerif.Gen.LiveSetTx
import NessaiVerif.Gen.Loops
import NessaiVerif.Gen.MetaTx
import NessaiVerif.Gen.OrderedOps
import NessaiVerif.Gen.OrderedTx
import NessaiVerif.Gen.PoolTx
import NessaiVerif.Gen.ResampleTx
import NessaiVerif.Gen.RescaleTx
import NessaiVerif.Gen.Results
import NessaiVerif.Gen.Tables
import NessaiVerif.Gen.Term
import NessaiVerif.Gen.Threshold
import NessaiVerif.Gen.ThresholdTx
import NessaiVerif.Gen.Trapezoid
import NessaiVerif.Model.Accounts
import NessaiVerif.Model.AccountsTables
import NessaiVerif.Model.Batch
import NessaiVerif.Model.CrashFS
import NessaiVerif.Model.Encode
import NessaiVerif.Model.EncodeLeaf
import NessaiVerif.Model.FlowAlgebra
import NessaiVerif.Model.FlowTrain
import NessaiVerif.Model.Increment
import NessaiVerif.Model.Information
import NessaiVerif.Model.Interrupt
import NessaiVerif.Model.LivePoint
import NessaiVerif.Model.LiveSet
import NessaiVerif.Model.Loops
import NessaiVerif.Model.LoopsRun
import NessaiVerif.Model.MetaProposal
import NessaiVerif.Model.Np
import NessaiVerif.Model.OrderedSamples
import NessaiVerif.Model.Pool
import NessaiVerif.Model.PyDict
import NessaiVerif.Model.PySlice
import NessaiVerif.Model.Quadrature
import NessaiVerif.Model.Reparam
import NessaiVerif.Model.Resample
import NessaiVerif.Model.Results
import NessaiVerif.Model.Tables
import NessaiVerif.Model.Term
import NessaiVerif.Model.Threshold
import NessaiVerif.Proofs.Accounts
import NessaiVerif.Proofs.Batch
import NessaiVerif.Proofs.CrashFS
import NessaiVerif.Proofs.CrashFSGen
import NessaiVerif.Proofs.CrashFSHist
import NessaiVerif.Proofs.Encode
import NessaiVerif.Proofs.EncodeH5
import NessaiVerif.Proofs.Flow
import NessaiVerif.Proofs.FlowLayers
import NessaiVerif.Proofs.FlowReal
import NessaiVerif.Proofs.FlowTrain
import NessaiVerif.Proofs.Information
import NessaiVerif.Proofs.InformationReal
import NessaiVerif.Proofs.InsertMany
import NessaiVerif.Proofs.Interrupt
import NessaiVerif.Proofs.ListSum
import NessaiVerif.Proofs.LivePoint
import NessaiVerif.Proofs.LiveSet
import NessaiVerif.Proofs.LiveSetInv
import NessaiVerif.Proofs.LiveSetTx
import NessaiVerif.Proofs.Loops
import NessaiVerif.Proofs.MergeInsert
import NessaiVerif.Proofs.Meta
import NessaiVerif.Proofs.Np
import NessaiVerif.Proofs.Ordered
import NessaiVerif.Proofs.OrderedLists
import NessaiVerif.Proofs.Pool
import NessaiVerif.Proofs.PoolHand
import NessaiVerif.Proofs.PoolLoop
import NessaiVerif.Proofs.PoolRadial
import NessaiVerif.Proofs.PyDict
import NessaiVerif.Proofs.QuadOrder
import NessaiVerif.Proofs.Quadrature
import NessaiVerif.Proofs.Reparam
import NessaiVerif.Proofs.ReparamCombine
import NessaiVerif.Proofs.ReparamReal
import NessaiVerif.Proofs.ReparamRtb
import NessaiVerif.Proofs.Resample
import NessaiVerif.Proofs.ResampleLog
import NessaiVerif.Proofs.Results
import NessaiVerif.Proofs.ResultsQuad
import NessaiVerif.Proofs.Term
import NessaiVerif.Proofs.Threshold
import NessaiVerif.Props.C01
import NessaiVerif.Props.C02
import NessaiVerif.Props.C03
import NessaiVerif.Props.C04
import NessaiVerif.Props.C05
import NessaiVerif.Props.C07
import NessaiVerif.Props.C08
import NessaiVerif.Props.C09
import NessaiVerif.Props.C10
import NessaiVerif.Props.C11
import NessaiVerif.Props.C12
import NessaiVerif.Props.C13
import NessaiVerif.Props.C14
import NessaiVerif.Props.C15
import NessaiVerif.Props.C16
import NessaiVerif.Props.C17
import NessaiVerif.Props.C18
import NessaiVerif.Props.C19
import NessaiVerif.Props.C20
