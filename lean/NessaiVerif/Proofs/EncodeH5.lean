import NessaiVerif.Model.EncodeLeaf
/- C19, HDF5 side (core Lean only).  A safe dictionary is written as its image `imgKvs` (`write_val`) and read back from
it (`read_imgVal`); the full writer (`h5WriteFull`, the function the real code is tied to) agrees with the container-level
writer (`h5Write`) whenever every leaf is writable. -/
namespace NessaiVerif.Encode

def keyStr : Key → String
  | .str s => s
  | _ => ""

mutual
/-- the container a safe dictionary is expected to produce -/
def imgVal (sent : String) : Tree → H5
  | .dict kvs => .grp (imgKvs sent kvs)
  | v => .ds (h5Encode sent v)
def imgKvs (sent : String) : List (Key × Tree) → Kids
  | [] => []
  | (k, v) :: rest => (keyStr k, imgVal sent v) :: imgKvs sent rest
end

theorem lookupKid_append (s : String) : ∀ f g : Kids, lookupKid s (f ++ g) = (lookupKid s f).or (lookupKid s g)
  | [], _ => rfl
  | (k', _) :: f, g => by
      simp only [List.cons_append, lookupKid]
      split
      · rfl
      · exact lookupKid_append s f g

theorem lookupKid_append_self (k : String) (h : H5) (f : Kids) (hn : lookupKid k f = none) :
    lookupKid k (f ++ [(k, h)]) = some h := by
  rw [lookupKid_append, hn]; simp [lookupKid]

theorem lookupKid_append_other (k s : String) (h : H5) (hs : s ≠ k) (f : Kids) (hn : lookupKid s f = none) :
    lookupKid s (f ++ [(k, h)]) = none := by
  rw [lookupKid_append, hn]; simp [lookupKid, Ne.symm hs]

theorem setKid_append_self (k : String) (h h' : H5) : ∀ f : Kids, lookupKid k f = none →
    setKid k h' (f ++ [(k, h)]) = f ++ [(k, h')]
  | [], _ => if_pos rfl
  | (k', h'') :: f, hn => by
      rw [lookupKid] at hn
      split at hn
      · cases hn
      · next hk => rw [List.cons_append, setKid, if_neg hk, setKid_append_self k h h' f hn]; rfl

theorem insertAll_cons_ok {p : Path} {v : Tree} {f f' : Kids} (rest : List (Path × Tree))
    (h : insertKids p v f = .ok f') : insertAll ((p, v) :: rest) f = insertAll rest f' := by
  rw [insertAll, h]

theorem insertAll_cons_inv {p : Path} {v : Tree} {rest : List (Path × Tree)} {f g : Kids}
    (h : insertAll ((p, v) :: rest) f = .ok g) : ∃ f', insertKids p v f = .ok f' ∧ insertAll rest f' = .ok g := by
  rw [insertAll] at h
  cases hi : insertKids p v f with
  | error e => rw [hi] at h; cases h
  | ok f' => rw [hi] at h; exact ⟨f', rfl, h⟩

theorem insertAll_append : ∀ (a b : List (Path × Tree)) (f f' : Kids), insertAll a f = .ok f' →
    insertAll (a ++ b) f = insertAll b f'
  | [], _, _, _, h => by cases h; rfl
  | (p, v) :: a, b, f, f', h => by
      obtain ⟨f1, hi, h1⟩ := insertAll_cons_inv h
      rw [List.cons_append, insertAll_cons_ok _ hi]
      exact insertAll_append a b f1 f' h1

/-- one insertion below the existing group `k` (last child of `f`) is that insertion into the group's children -/
theorem insertKids_under {k : String} {f g0 g1 : Kids} {p : Path} {v : Tree} (hf : lookupKid k f = none)
    (hp : p ≠ []) (hi : insertKids p v g0 = .ok g1) :
    insertKids (k :: p) v (f ++ [(k, .grp g0)]) = .ok (f ++ [(k, .grp g1)]) := by
  match p, hp with
  | k2 :: p', _ =>
    simp only [insertKids, lookupKid_append_self k _ f hf, hi]
    simp only [bind, Except.bind, pure, Except.pure, setKid_append_self k _ _ f hf]

/-- one insertion below a fresh name `k` creates the group `k` as last child, holding what the insertion into `[]` gives -/
theorem insertKids_fresh {k : String} {f g1 : Kids} {p : Path} {v : Tree} (hf : lookupKid k f = none)
    (hp : p ≠ []) (hi : insertKids p v [] = .ok g1) :
    insertKids (k :: p) v f = .ok (f ++ [(k, .grp g1)]) := by
  match p, hp with
  | k2 :: p', _ =>
    simp only [insertKids, hf, hi]
    simp only [bind, Except.bind, pure, Except.pure]

/-- inserting below an existing group `k` (last child) = inserting into that group -/
theorem insertAll_under (k : String) : ∀ (es : List (Path × Tree)), (∀ e ∈ es, e.1 ≠ []) →
    ∀ (f g0 g : Kids), lookupKid k f = none → insertAll es g0 = .ok g →
    insertAll (es.map (fun e => (k :: e.1, e.2))) (f ++ [(k, .grp g0)]) = .ok (f ++ [(k, .grp g)])
  | [], _, _, _, _, _, h => by cases h; rfl
  | (p, v) :: es, hne, f, g0, g, hf, h => by
      obtain ⟨g1, hi, h1⟩ := insertAll_cons_inv h
      rw [List.map_cons, insertAll_cons_ok _ (insertKids_under hf (hne _ (List.mem_cons_self ..)) hi)]
      exact insertAll_under k es (fun e he => hne e (List.mem_cons_of_mem _ he)) f g1 g hf h1

/-- the first insertion below a fresh name creates the group -/
theorem insertAll_fresh (k : String) (es : List (Path × Tree)) (hne : ∀ e ∈ es, e.1 ≠ []) (hes : es ≠ [])
    (f g : Kids) (hf : lookupKid k f = none) (h : insertAll es [] = .ok g) :
    insertAll (es.map (fun e => (k :: e.1, e.2))) f = .ok (f ++ [(k, .grp g)]) := by
  match es, hes with
  | (p, v) :: es, _ =>
    obtain ⟨g1, hi, h1⟩ := insertAll_cons_inv h
    rw [List.map_cons, insertAll_cons_ok _ (insertKids_fresh hf (hne _ (List.mem_cons_self ..)) hi)]
    exact insertAll_under k es (fun e he => hne e (List.mem_cons_of_mem _ he)) f g1 g hf h1

theorem insertAll_single {k : String} {f : Kids} (hf : lookupKid k f = none) (w : Tree) :
    insertAll [([k], w)] f = .ok (f ++ [(k, .ds w)]) := by
  rw [insertAll, insertKids, hf]; rfl

/-- A value that is not a dictionary becomes one dataset.  `hfl` and `himg` say "not a dictionary": they are the catch-all
branches of `flattenVal` and `imgVal`, `rfl` at every constructor other than `.dict` (but not for a variable `v`). -/
theorem write_leaf (sent : String) (v : Tree) (hfl : flattenVal sent v = .ok [([], h5Encode sent v)])
    (himg : imgVal sent v = .ds (h5Encode sent v)) :
    ∃ es, flattenVal sent v = .ok es ∧ es ≠ [] ∧
      ∀ (k : String) (f : Kids), lookupKid k f = none →
        insertAll (es.map (fun e => ([k] ++ e.1, e.2))) f = .ok (f ++ [(k, imgVal sent v)]) :=
  ⟨_, hfl, nofun, fun _ _ hf => himg ▸ insertAll_single hf _⟩

mutual
/-- For every fresh name `k` and every container `f`, not for the root alone: `write_kvs` inserts the rest of a dictionary
into a container that has grown by the first key, and a nested dictionary is `write_kvs` on the empty group, lifted below
`k` by `insertAll_fresh`. -/
theorem write_val (sent : String) : ∀ v : Tree, H5Safe sent v →
    ∃ es, flattenVal sent v = .ok es ∧ es ≠ [] ∧
      ∀ (k : String) (f : Kids), lookupKid k f = none →
        insertAll (es.map (fun e => ([k] ++ e.1, e.2))) f = .ok (f ++ [(k, imgVal sent v)])
  | .dict kvs => fun ⟨hne, hs⟩ => by
      obtain ⟨es, hfl, hp, hnn, hins⟩ := write_kvs sent kvs hs
      exact ⟨es, hfl, hnn hne, fun k f hf =>
        insertAll_fresh k es hp (hnn hne) f _ hf (hins [] fun _ _ => rfl)⟩
  | .list _ | .tuple _ | .int _ | .float _ | .str _ | .none | .bool _ | .ndarray _ _ _ | .structured _ _ _
  | .npInt _ | .npFloat _ _ _ | .npBool _ | .npStr _ | .opaque _ => fun _ => write_leaf sent _ rfl rfl
theorem write_kvs (sent : String) : ∀ kvs : List (Key × Tree), H5SafeKvs sent kvs →
    ∃ es, flattenKvs sent kvs = .ok es ∧ (∀ e ∈ es, e.1 ≠ []) ∧ (kvs ≠ [] → es ≠ []) ∧
      ∀ f : Kids, (∀ s, .str s ∈ keysOf kvs → lookupKid s f = none) →
        insertAll es f = .ok (f ++ imgKvs sent kvs)
  | [], _ => ⟨[], rfl, nofun, fun h => (h rfl).elim, fun f _ => congrArg Except.ok (List.append_nil f).symm⟩
  | (_, v) :: rest, ⟨⟨s, rfl, hseg⟩, hnot, hv, hr⟩ => by
      obtain ⟨here, hfv, hhere, hinsv⟩ := write_val sent v hv
      obtain ⟨more, hfr, hmne, _, hinsr⟩ := write_kvs sent rest hr
      refine ⟨here.map (fun e : Path × Tree => ([s] ++ e.1, e.2)) ++ more, ?_, ?_, ?_, ?_⟩
      · show (do let here ← flattenVal sent v; let more ← flattenKvs sent rest
                 pure (here.map (fun e : Path × Tree => (segs s ++ e.1, e.2)) ++ more)) = _
        rw [hfv, hfr, hseg]; rfl
      · intro e he
        rcases List.mem_append.1 he with he | he
        · obtain ⟨e', _, rfl⟩ := List.mem_map.1 he
          exact List.cons_ne_nil _ _
        · exact hmne e he
      · exact fun _ h => hhere (List.map_eq_nil_iff.1 (List.append_eq_nil_iff.1 h).1)
      · intro f hfresh
        have hsf : lookupKid s f = none := hfresh s (List.mem_cons_self ..)
        -- the keys of the rest are still free once `s` is linked
        have hfresh' : ∀ s', .str s' ∈ keysOf rest → lookupKid s' (f ++ [(s, imgVal sent v)]) = none := fun s' hk' =>
          lookupKid_append_other s s' _ (fun h => hnot (h ▸ hk')) f (hfresh s' (List.mem_cons_of_mem _ hk'))
        rw [insertAll_append _ _ f _ (hinsv s f hsf), hinsr _ hfresh', List.append_assoc]; rfl
end

theorem write_kvs_empty (sent : String) (kvs : List (Key × Tree)) (hs : H5SafeKvs sent kvs) :
    ∃ es, flattenKvs sent kvs = .ok es ∧ insertAll es [] = .ok (imgKvs sent kvs) := by
  obtain ⟨es, hfl, _, _, hins⟩ := write_kvs sent kvs hs
  exact ⟨es, hfl, hins [] fun _ _ => rfl⟩

theorem decode_encode (sent : String) : ∀ v : Tree, (∀ s, v = .str s → s ≠ sent) →
    h5Decode sent (h5Encode sent v) = v
  | .none, _ => if_pos rfl
  | .str s, h => if_neg (h s rfl)
  | .dict _, _ | .list _, _ | .tuple _, _ | .int _, _ | .float _, _ | .bool _, _
  | .ndarray _ _ _, _ | .structured _ _ _, _ | .npInt _, _ | .npFloat _ _ _, _ | .npBool _, _
  | .npStr _, _ | .opaque _, _ => rfl

mutual
theorem read_imgVal (sent : String) : ∀ v : Tree, H5Safe sent v → h5Read sent (imgVal sent v) = v
  | .dict kvs => fun ⟨_, hs⟩ => congrArg Tree.dict (read_imgKvs sent kvs hs)
  | .str _ => fun hs => if_neg hs
  | .none => fun _ => if_pos rfl
  | .list _ | .tuple _ | .int _ | .float _ | .bool _ | .ndarray _ _ _ | .structured _ _ _ | .npInt _
  | .npFloat _ _ _ | .npBool _ | .npStr _ | .opaque _ => fun _ => rfl
theorem read_imgKvs (sent : String) : ∀ kvs : List (Key × Tree), H5SafeKvs sent kvs →
    h5ReadKids sent (imgKvs sent kvs) = kvs
  | [], _ => rfl
  | (_, v) :: rest, ⟨⟨s, rfl, _⟩, _, hv, hr⟩ => by
      show (Key.str s, h5Read sent (imgVal sent v)) :: h5ReadKids sent (imgKvs sent rest) = _
      rw [read_imgVal sent v hv, read_imgKvs sent rest hr]
end

theorem h5RoundTrip_safe (sent : String) (kvs : List (Key × Tree)) (hs : H5SafeKvs sent kvs) :
    h5RoundTrip sent kvs = .ok (.dict kvs) := by
  obtain ⟨es, hfl, h0⟩ := write_kvs_empty sent kvs hs
  simp [h5RoundTrip, h5Write, hfl, h0, read_imgKvs sent kvs hs]

theorem flattenKvs_cons_ok {sent : String} {k : Key} {v : Tree} {rest : List (Key × Tree)} {es : List (Path × Tree)}
    (h : flattenKvs sent ((k, v) :: rest) = .ok es) :
    ∃ key here more, k = .str key ∧ flattenVal sent v = .ok here ∧ flattenKvs sent rest = .ok more ∧
      es = here.map (fun e => (segs key ++ e.1, e.2)) ++ more := by
  cases k with
  | str key =>
    revert h
    show (do let here ← flattenVal sent v; let more ← flattenKvs sent rest
             pure (here.map (fun e : Path × Tree => (segs key ++ e.1, e.2)) ++ more)) = _ → _
    cases flattenVal sent v with
    | error e => exact nofun
    | ok here =>
      cases flattenKvs sent rest with
      | error e => exact nofun
      | ok more => exact fun h => ⟨key, here, more, rfl, rfl, rfl, (Except.ok.inj h).symm⟩
  | int _ | bool _ | none | bad => cases h

mutual
theorem flattenP_of_ok (sent : String) : ∀ (kvs : List (Key × Tree)) (es : List (Path × Tree)),
    flattenKvs sent kvs = .ok es → flattenP sent kvs = (es, none)
  | [], _, h => by cases h; rfl
  | (_, v) :: rest, _, h => by
      obtain ⟨key, here, more, rfl, hv, hr, rfl⟩ := flattenKvs_cons_ok h
      show (match flattenPVal sent v with
        | (here, e1) => match e1 with
          | some e => (here.map (fun e : Path × Tree => (segs key ++ e.1, e.2)), some e)
          | none => match flattenP sent rest with
            | (more, e2) => (here.map (fun e : Path × Tree => (segs key ++ e.1, e.2)) ++ more, e2)) = _
      rw [flattenPVal_of_ok sent v here hv, flattenP_of_ok sent rest more hr]
theorem flattenPVal_of_ok (s : String) : ∀ (v : Tree) (es : List (Path × Tree)),
    flattenVal s v = .ok es → flattenPVal s v = (es, none)
  | .dict kvs => flattenP_of_ok s kvs
  | .list _ | .tuple _ | .int _ | .float _ | .str _ | .none | .bool _ | .ndarray _ _ _ | .structured _ _ _
  | .npInt _ | .npFloat _ _ _ | .npBool _ | .npStr _ | .opaque _ => fun _ h => by cases h; rfl
end

def EntryOk (s : String) (e : Path × Tree) : Prop := ∃ t, h5LeafToks s e.2 = .ok t

theorem leafOk_iff (sent : String) (v : Tree) :
    leafOk sent v = true ↔ ∃ t, h5LeafToks sent (h5Encode sent v) = .ok t := by
  unfold leafOk
  cases h5LeafToks sent (h5Encode sent v) <;> simp

/-- `None` is writable: it is stored as the sentinel string -/
theorem leafOk_none (sent : String) (h : hasNul sent = false) : leafOk sent .none = true := by
  simp [leafOk, h5Encode, h5LeafToks, h]

/-- The one entry of a writable value that is not a dictionary: `h` is what `flattenVal sent v = .ok es` reduces to at
every constructor other than `.dict`. -/
theorem entries_ok_leaf {sent : String} {v : Tree} {es : List (Path × Tree)} (hl : leafOk sent v = true)
    (h : Except.ok [(([] : Path), h5Encode sent v)] = Except.ok (ε := Err) es) : ∀ e ∈ es, EntryOk sent e := by
  cases h
  exact fun e he => List.mem_singleton.1 he ▸ (leafOk_iff sent v).1 hl

mutual
theorem entries_ok (sent : String) : ∀ (kvs : List (Key × Tree)) (es : List (Path × Tree)),
    LeavesOkKvs sent kvs → flattenKvs sent kvs = .ok es → ∀ e ∈ es, EntryOk sent e
  | [], _, _, h => by cases h; exact nofun
  | (_, v) :: rest, _, ⟨hv, hr⟩, h => by
      obtain ⟨key, here, more, rfl, hfv, hfr, rfl⟩ := flattenKvs_cons_ok h
      intro e he
      rcases List.mem_append.1 he with he | he
      · obtain ⟨e', he', rfl⟩ := List.mem_map.1 he
        exact entries_ok_val sent v here hv hfv e' he'
      · exact entries_ok sent rest more hr hfr e he
theorem entries_ok_val (s : String) : ∀ (v : Tree) (es : List (Path × Tree)),
    LeavesOk s v → flattenVal s v = .ok es → ∀ e ∈ es, EntryOk s e
  | .dict kvs => entries_ok s kvs
  | .list _ | .tuple _ | .int _ | .float _ | .str _ | .none | .bool _ | .ndarray _ _ _ | .structured _ _ _
  | .npInt _ | .npFloat _ _ _ | .npBool _ | .npStr _ | .opaque _ => fun _ => entries_ok_leaf
end

theorem writeSeq_eq_insertAll (sent : String) : ∀ (es : List (Path × Tree)) (f : Kids),
    (∀ e ∈ es, EntryOk sent e) → writeSeq sent es f = insertAll es f
  | [], f, _ => rfl
  | (p, v) :: es, f, h => by
      obtain ⟨t, ht⟩ := h (p, v) (List.mem_cons_self ..)
      rw [writeSeq, insertAll, ht]
      cases insertKids p v f with
      | error e => rfl
      | ok f' => exact writeSeq_eq_insertAll sent es f' fun e he => h e (List.mem_cons_of_mem _ he)

theorem h5WriteFull_safe (sent : String) (kvs : List (Key × Tree)) (hs : H5SafeKvs sent kvs)
    (hl : LeavesOkKvs sent kvs) :
    h5WriteFull sent kvs = .ok (imgKvs sent kvs) ∧ h5Write sent kvs = .ok (imgKvs sent kvs) := by
  obtain ⟨es, hfl, h0⟩ := write_kvs_empty sent kvs hs
  refine ⟨?_, by simp [h5Write, hfl, h0]⟩
  simp [h5WriteFull, flattenP_of_ok sent kvs es hfl, writeSeq_eq_insertAll sent es [] (entries_ok sent kvs es hl hfl),
    h0]

mutual
theorem readToks_imgVal (s : String) : ∀ v : Tree, LeavesOk s v → ∃ t, h5ReadToks s (imgVal s v) = .ok t
  | .dict kvs => fun hl => by
      obtain ⟨t, ht⟩ := readToks_imgKvs s kvs hl
      refine ⟨["D", toString (imgKvs s kvs).length] ++ t, ?_⟩
      show (do let body ← h5ReadToksKids s (imgKvs s kvs); pure (["D", toString (imgKvs s kvs).length] ++ body)) = _
      rw [ht]; rfl
  | .list _ | .tuple _ | .int _ | .float _ | .str _ | .none | .bool _ | .ndarray _ _ _ | .structured _ _ _
  | .npInt _ | .npFloat _ _ _ | .npBool _ | .npStr _ | .opaque _ => (leafOk_iff s _).1
theorem readToks_imgKvs (sent : String) : ∀ kvs : List (Key × Tree), LeavesOkKvs sent kvs →
    ∃ t, h5ReadToksKids sent (imgKvs sent kvs) = .ok t
  | [], _ => ⟨[], rfl⟩
  | (k, v) :: rest, ⟨hv, hr⟩ => by
      obtain ⟨a, ha⟩ := readToks_imgVal sent v hv
      obtain ⟨b, hb⟩ := readToks_imgKvs sent rest hr
      refine ⟨("ks:" ++ cps (keyStr k)) :: a ++ b, ?_⟩
      show (do let a ← h5ReadToks sent (imgVal sent v); let b ← h5ReadToksKids sent (imgKvs sent rest)
               pure (("ks:" ++ cps (keyStr k)) :: a ++ b)) = _
      rw [ha, hb]; rfl
end

theorem h5RoundTripFull_safe (sent : String) (kvs : List (Key × Tree)) (hs : H5SafeKvs sent kvs)
    (hl : LeavesOkKvs sent kvs) :
    h5RoundTripFull sent kvs = .ok (.dict kvs) ∧
    ∃ f toks, h5WriteFull sent kvs = .ok f ∧ h5Write sent kvs = .ok f ∧ h5ReadToksKids sent f = .ok toks := by
  obtain ⟨h1, h2⟩ := h5WriteFull_safe sent kvs hs hl
  obtain ⟨t, ht⟩ := readToks_imgKvs sent kvs hl
  exact ⟨by simp [h5RoundTripFull, h1, read_imgKvs sent kvs hs], _, t, h1, h2, ht⟩

theorem splitSlashAux_free : ∀ (cs cur : List Char), '/' ∉ cs → splitSlashAux cs cur = [cur.reverse ++ cs]
  | [], cur, _ => by rw [splitSlashAux, List.append_nil]
  | c :: cs, cur, h => by
      have ⟨hc, hcs⟩ := not_or.1 (mt List.mem_cons.2 h)
      rw [splitSlashAux, if_neg (Ne.symm hc), splitSlashAux_free cs (c :: cur) hcs, List.reverse_cons,
        List.append_assoc, List.singleton_append]

/-- a non-empty key without '/' other than "." is exactly one path segment -/
theorem segs_single (k : String) (h1 : '/' ∉ k.toList) (h2 : k ≠ "") (h3 : k ≠ ".") : segs k = [k] := by
  have hl : k.toList ≠ [] := fun h => h2 (String.toList_eq_nil_iff.mp h)
  have hd : k.toList ≠ ['.'] := fun h => h3 (by simpa using congrArg String.ofList h)
  simp [segs, splitSlashAux_free _ _ h1, hl, hd]

/-- For a literal key `segs_ofList _ … : segs "abc" = ["abc"]` checks the conditions on the characters; through
`segs_single` the kernel would first have to decode the literal's UTF-8 bytes, which is slow. -/
theorem segs_ofList (cs : List Char) (h1 : '/' ∉ cs) (h2 : cs ≠ []) (h3 : cs ≠ ['.']) :
    segs (String.ofList cs) = [String.ofList cs] :=
  segs_single _ (String.toList_ofList ▸ h1) (fun h => h2 (by simpa using congrArg String.toList h))
    (fun h => h3 (by simpa using congrArg String.toList h))

end NessaiVerif.Encode
