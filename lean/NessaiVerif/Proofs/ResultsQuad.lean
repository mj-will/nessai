import NessaiVerif.Proofs.Results
import NessaiVerif.Proofs.Quadrature
/-
C05 — where the results model (Model/Results.lean) meets the quadrature model (C02, Model/Quadrature.lean): the integral
state that saw the recorded `increment` calls reports the documented quadrature of the returned likelihoods; the
importance-sampling estimator (part 2 of the model, written with the quadrature model's `sumL`) is invariant under permutation.
-/
namespace NessaiVerif.Results
open NessaiVerif.Quad

section
variable {K : Type} [LinearOrder K] {F : Type} [Field F]

theorem evidence_of_spec (shrink : Nat → F) (lin : K → F) {n : Nat} (hn : 1 ≤ n) {r : NS K} (sp : ResultSpec n r) :
    let st := (St.init n : St F).incrMany shrink (r.calls.map fun c => (lin c.1, c.2))
    let Ls := r.nested.map fun p => lin p.logL
    (r.finalised = true →
      computeWeights shrink Ls (.int n) = .ok (st.finalise, st.postW) ∧
      st.finalise = evidence Ls ((scheduleIncr r.iteration n).map shrink) ∧
      st.postW = weights Ls ((scheduleIncr r.iteration n).map shrink)) ∧
    (r.finalised = false →
      st.Z = rectOnePass Ls (vols ((List.replicate r.iteration n).map shrink)) ∧
      st.postW = weights Ls ((List.replicate r.iteration n).map shrink)) := by
  -- the state is a function of the recorded calls: their likelihoods are the returned ones, their live counts `nliveSeen`
  have hls : (r.calls.map fun c => ((lin c.1, c.2) : F × Option Nat)).map (·.1) = r.nested.map fun p => lin p.logL := by
    simpa [List.map_map, Function.comp_def] using congrArg (List.map lin) sp.callsL
  have hres : resolved n (r.calls.map fun c => ((lin c.1, c.2) : F × Option Nat)) = r.nliveSeen := by
    simp [resolved, NS.nliveSeen, sp.nlive, Function.comp_def]
  obtain ⟨h1, h2, -, h4, -, -⟩ := state_closed shrink n (r.calls.map fun c => (lin c.1, c.2))
  simp only [hls, hres, sp.callsN] at h1 h2 h4
  refine ⟨fun hfin => ?_, fun hfin => ?_⟩
  · simp only [hfin, if_true] at h1 h2
    refine ⟨?_, h1, h2⟩
    rw [h1, h2]
    exact computeWeights_int shrink _ r.iteration n hn (by simp [sp.count, hfin])
  · simp only [hfin, Bool.false_eq_true, if_false] at h2 h4
    exact ⟨h4, h2⟩

end

variable {K : Type} [Field K]

theorem sumL_append (a b : List K) : sumL (a ++ b) = sumL a + sumL b := by
  simp only [sumL_eq_sum, List.sum_append]

theorem insZ_perm {a b : List K} (h : a.Perm b) : insZ a = insZ b := by
  simp only [insZ, sumL_eq_sum, h.sum_eq, h.length_eq]

theorem insVar_perm {a b : List K} (h : a.Perm b) : insVar a = insVar b := by
  simp only [insVar, sumL_eq_sum, insZ_perm h, h.length_eq, (h.map _).sum_eq]

end NessaiVerif.Results
