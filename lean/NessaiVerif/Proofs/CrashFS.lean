import NessaiVerif.Model.CrashFS
/-
C11 — what holds of the crash/file-system model for ANY protocol. A write protocol is seen only through what it leaves
of the files it touches, completed or killed (`DumpSpec`, `SaveSpec`), and that follows from its shape: an optional
rotation then write-then-rename for the one, a rotation then a save in place for the other. `CkptGood` is the state of
the checkpoint pair from which a resume has a version it must return; one dump, killed anywhere, keeps the pair good.
-/
namespace NessaiVerif.CrashFS

-- checkpoint, checkpoint.old, weights (`model.pt`), weights.old
abbrev cb : Path := ⟨.ckpt, .base⟩
abbrev co : Path := ⟨.ckpt, .old⟩
abbrev wb : Path := ⟨.weights, .base⟩
abbrev wo : Path := ⟨.weights, .old⟩

@[simp] theorem isTorn_absent : Content.absent.isTorn = false := rfl
@[simp] theorem isTorn_complete (v n : Nat) : (Content.complete v n).isTorn = false := rfl
@[simp] theorem isTorn_torn (k : Nat) (e : Exc) : (Content.torn k e).isTorn = true := rfl

theorem FS.has_iff (fs : FS) (p : Path) : fs.has p = true ↔ fs p ≠ .absent := by
  unfold FS.has; cases fs p <;> simp [Content.exists?]

theorem FS.set_same (fs : FS) (p : Path) (c : Content) : fs.set p c p = c := if_pos rfl

theorem FS.set_suf (fs : FS) (fam : Fam) {s t : Suffix} (c : Content) (h : s ≠ t) :
    fs.set ⟨fam, t⟩ c ⟨fam, s⟩ = fs ⟨fam, s⟩ :=
  if_neg fun e => h (congrArg Path.suf e)

section Frame
variable {fam : Fam} {d : Dump} {p : Path} (hp : p.fam ≠ fam)
include hp

theorem FS.set_frame (fs : FS) (s : Suffix) (c : Content) : fs.set ⟨fam, s⟩ c p = fs p :=
  if_neg fun h : p = ⟨fam, s⟩ => hp (h ▸ rfl)

theorem opRun_frame (o : Op) (fs : FS) : opRun fam d o fs p = fs p := by
  cases o with
  | move a b => simp only [opRun]; cases fs ⟨fam, a⟩ <;> simp [FS.set_frame hp]
  | _ => simp [opRun, FS.set_frame hp]

theorem opCrash_frame (k : Nat) (o : Op) (fs : FS) : opCrash fam d k o fs p = fs p := by
  cases o <;> simp [opCrash, FS.set_frame hp]

theorem settle_frame (f : Nat) (pend : Option Suffix) (fs : FS) : settle fam d f pend fs p = fs p := by
  cases pend <;> simp [settle, FS.set_frame hp]

theorem runOps_frame (ops : List Op) (fs : FS) : runOps fam d ops fs p = fs p := by
  induction ops generalizing fs with
  | nil => rfl
  | cons o r ih => rw [runOps, ih, opRun_frame hp]

theorem crashOps_frame (f : Nat) (ops : List Op) (j : Nat) (ins : Option Nat) (pend : Option Suffix) (fs : FS) :
    crashOps fam d f ops j ins pend fs p = fs p := by
  induction ops generalizing fs j pend with
  | nil => rfl
  | cons o r ih =>
    cases j with
    | zero =>
      cases ins with
      | none => exact settle_frame hp ..
      | some k => exact (settle_frame hp ..).trans (opCrash_frame hp ..)
    | succ j => rw [crashOps, ih, opRun_frame hp]

theorem crashState_frame (prog : List Stmt) (fs : FS) (cp : CrashPt) : crashState prog fam d fs cp p = fs p :=
  crashOps_frame hp ..

theorem runProg_frame (prog : List Stmt) (fs : FS) : runProg prog fam d fs p = fs p :=
  runOps_frame hp ..

end Frame

/-- the file system after a run of `prog` that completed (`none`) or was killed at `cp` -/
def after (prog : List Stmt) (fam : Fam) (d : Dump) (fs : FS) : Option CrashPt → FS
  | none => runProg prog fam d fs
  | some cp => crashState prog fam d fs cp

theorem after_frame {fam : Fam} {p : Path} (hp : p.fam ≠ fam) (prog : List Stmt) (d : Dump) (fs : FS)
    (cp : Option CrashPt) : after prog fam d fs cp p = fs p := by
  cases cp
  · exact runProg_frame hp ..
  · exact crashState_frame hp ..

/-- `if os.path.exists(a): move(a, b)` -/
abbrev rot (a b : Suffix) : Stmt := .ifExists a [.move a b]

def rotated (fam : Fam) (a b : Suffix) (fs : FS) : FS :=
  if fs.has ⟨fam, a⟩ then (fs.set ⟨fam, b⟩ (fs ⟨fam, a⟩)).set ⟨fam, a⟩ .absent else fs

theorem rotated_src (fam : Fam) (a b : Suffix) (fs : FS) : rotated fam a b fs ⟨fam, a⟩ = .absent := by
  unfold rotated; split
  · simp [FS.set]
  · rename_i h; simpa [FS.has_iff] using h

theorem rotated_dst (fam : Fam) (a b : Suffix) (hab : a ≠ b) (fs : FS) :
    (fs ⟨fam, a⟩ ≠ .absent ∧ rotated fam a b fs ⟨fam, b⟩ = fs ⟨fam, a⟩) ∨
    (fs ⟨fam, a⟩ = .absent ∧ rotated fam a b fs ⟨fam, b⟩ = fs ⟨fam, b⟩) := by
  unfold rotated; split
  · rename_i h; exact .inl ⟨(FS.has_iff ..).1 h, by simp [FS.set, hab.symm]⟩
  · rename_i h; exact .inr ⟨by simpa [FS.has_iff] using h, rfl⟩

/-- Killed during the rotation nothing has changed yet; otherwise the rotation is done and the rest runs, or is killed,
from the rotated state. -/
theorem after_rot (a b : Suffix) (rest : List Stmt) (fam : Fam) (d : Dump) (fs : FS) (cp : Option CrashPt) :
    (cp ≠ none ∧ after (rot a b :: rest) fam d fs cp = fs) ∨
    ∃ j, after (rot a b :: rest) fam d fs cp =
      after rest fam d (rotated fam a b fs) (cp.map fun c => ⟨j, c.inside, c.flushed⟩) := by
  unfold rotated
  -- `dyn` makes of the rotation one operation, `existsCheck`, when there is no file, and two, `existsCheck` and `move`,
  -- when there is one
  cases h : fs.has ⟨fam, a⟩ <;> rcases cp with _ | ⟨j, ins, f⟩
  · -- no file, completed
    exact .inr ⟨0, by simp [after, runProg, dyn, h, runOps, opRun]⟩
  · -- no file, killed: at `existsCheck`, or after it
    rcases j with _ | j
    · left; cases ins <;> simp [after, crashState, dyn, h, crashOps, settle, opCrash]
    · right; exact ⟨j, by simp [after, crashState, dyn, h, crashOps, opPend, opRun]⟩
  · -- a file, completed
    exact .inr ⟨0, by simp [after, runProg, dyn, h, runOps, opRun, (FS.has_iff ..).1 h]⟩
  · -- a file, killed: at `existsCheck`, at the `move` (atomic), or after both
    rcases j with _ | _ | j
    · left; cases ins <;> simp [after, crashState, dyn, h, crashOps, settle, opCrash]
    · left; cases ins <;> simp [after, crashState, dyn, h, crashOps, settle, opCrash, opPend, opRun]
    · right; exact ⟨j, by simp [after, crashState, dyn, h, crashOps, opPend, opRun, runOps, (FS.has_iff ..).1 h]⟩

theorem runProg_rot (a b : Suffix) (rest : List Stmt) (fam : Fam) (d : Dump) (fs : FS) :
    runProg (rot a b :: rest) fam d fs = runProg rest fam d (rotated fam a b fs) :=
  have ⟨_, e⟩ := (after_rot a b rest fam d fs none).resolve_left fun h => h.1 rfl
  e

theorem crashState_rot (a b : Suffix) (rest : List Stmt) (fam : Fam) (d : Dump) (fs : FS) (cp : CrashPt) :
    crashState (rot a b :: rest) fam d fs cp = fs ∨
    ∃ j, crashState (rot a b :: rest) fam d fs cp =
      crashState rest fam d (rotated fam a b fs) ⟨j, cp.inside, cp.flushed⟩ :=
  (after_rot a b rest fam d fs (some cp)).imp_left And.right

abbrev publish (t a : Suffix) : List Stmt := [.op (.openTrunc t), .op (.write t), .op (.close t), .op (.move t a)]

/-- Killed anywhere in write-then-rename the target is the previous file or the new one, never torn, and besides it only
the temporary file changes: `close` clears the pending write before the `move`, so `settle` never writes to `a`. -/
theorem after_publish (t a : Suffix) (hta : t ≠ a) (fam : Fam) (d : Dump) (fs : FS) (cp : Option CrashPt) :
    let fs' := after (publish t a) fam d fs cp
    ((cp ≠ none ∧ fs' ⟨fam, a⟩ = fs ⟨fam, a⟩) ∨ fs' ⟨fam, a⟩ = .complete d.v d.n) ∧
      ∀ s, s ≠ t → s ≠ a → fs' ⟨fam, s⟩ = fs ⟨fam, s⟩ := by
  rcases cp with _ | ⟨j, ins, f⟩
  · simp +contextual [after, runProg, dyn, runOps, opRun, FS.set, hta.symm]
  · simp only [after, crashState, dyn]
    rcases j with _|_|_|_|j <;> cases ins <;>
      simp +contextual [crashOps, opRun, opCrash, opPend, settle, FS.set, hta.symm]

theorem crashState_save (a : Suffix) (fam : Fam) (d : Dump) (fs : FS) (cp : CrashPt) :
    let fs' := crashState [.op (.save a)] fam d fs cp
    (fs' ⟨fam, a⟩ = fs ⟨fam, a⟩ ∨ fs' ⟨fam, a⟩ = .complete d.v d.n ∨
        ∃ k, cp.inside = some k ∧ fs' ⟨fam, a⟩ = .torn k d.exc) ∧
      ∀ s, s ≠ a → fs' ⟨fam, s⟩ = fs ⟨fam, s⟩ := by
  obtain ⟨_ | j, _ | k, f⟩ := cp
  · -- killed before the save
    exact ⟨.inl rfl, fun _ _ => rfl⟩
  · -- killed inside it, `k` bytes written
    refine ⟨.inr ?_, fun s h => FS.set_suf _ _ _ h⟩
    by_cases hk : k < d.len
    · exact .inr ⟨k, rfl, by simp [crashState, dyn, crashOps, settle, opCrash, FS.set_same, hk]⟩
    · exact .inl (by simp [crashState, dyn, crashOps, settle, opCrash, FS.set_same, hk])
  -- `j ≥ 1`: the save completed
  all_goals exact ⟨.inr (.inl (FS.set_same ..)), fun s h => FS.set_suf _ _ _ h⟩

/-- What a (possibly killed) `safe_file_dump` of `d` may make of the pair (checkpoint, checkpoint.old): without or before
the rotation, or after it. -/
def DumpView (d : Dump) (fs fs' : FS) : Prop :=
  ((fs' cb = fs cb ∨ fs' cb = .complete d.v d.n) ∧ fs' co = fs co) ∨
  (fs cb ≠ .absent ∧ (fs' cb = .absent ∨ fs' cb = .complete d.v d.n) ∧ fs' co = fs cb)

/-- the specification of `safe_file_dump`, by `save_existing` -/
structure DumpSpec (prog : Bool → List Stmt) : Prop where
  views : ∀ (se : Bool) (d : Dump) (fs : FS) (cp : Option CrashPt), DumpView d fs (after (prog se) .ckpt d fs cp)
  final : ∀ (se : Bool) (d : Dump) (fs : FS), runProg (prog se) .ckpt d fs cb = .complete d.v d.n

theorem dumpSpec_of_shape (prog : Bool → List Stmt)
    (h : ∀ se, prog se = publish .temp .base ∨ prog se = rot .base .old :: publish .temp .base) : DumpSpec prog := by
  have tail : ∀ d fs cp, let fs' := after (publish .temp .base) .ckpt d fs cp
      ((cp ≠ none ∧ fs' cb = fs cb) ∨ fs' cb = .complete d.v d.n) ∧ fs' co = fs co := fun d fs cp =>
    (after_publish .temp .base (by decide) .ckpt d fs cp).imp_right fun h => h .old (by decide) (by decide)
  have fin : ∀ d fs, runProg (publish .temp .base) .ckpt d fs cb = .complete d.v d.n := fun d fs =>
    (tail d fs none).1.resolve_left fun h => h.1 rfl
  constructor
  · intro se d fs cp
    rcases h se with e | e <;> rw [e]
    · exact .inl ((tail d fs cp).imp_left (Or.imp_left And.right))
    · rcases after_rot .base .old (publish .temp .base) .ckpt d fs cp with ⟨_, e⟩ | ⟨j, e⟩
      · exact .inl ⟨.inl (congrFun e cb), congrFun e co⟩
      · rw [e]
        obtain ⟨h1, h2⟩ := tail d (rotated .ckpt .base .old fs) (cp.map fun c => ⟨j, c.inside, c.flushed⟩)
        have h1 := h1.imp_left fun h => h.2.trans (rotated_src ..)
        rcases rotated_dst .ckpt .base .old (by decide) fs with ⟨h3, h4⟩ | ⟨h3, h4⟩
        · exact .inr ⟨h3, h1, h2.trans h4⟩
        · exact .inl ⟨h1.imp_left (·.trans h3.symm), h2.trans h4⟩
  · intro se d fs
    rcases h se with e | e <;> rw [e]
    · exact fin d fs
    · rw [runProg_rot]; exact fin d _

/-- The specification of `FlowModel.save_weights`: killed before the rotation is over nothing has changed; after it
`.old` holds the previous file, if there was one, and the file is missing, new, or — only when killed inside the
write — torn. -/
structure SaveSpec (prog : List Stmt) : Prop where
  views : ∀ (fam : Fam) (d : Dump) (fs : FS) (cp : CrashPt),
    let fs' := crashState prog fam d fs cp
    (fs' ⟨fam, .base⟩ = fs ⟨fam, .base⟩ ∧ fs' ⟨fam, .old⟩ = fs ⟨fam, .old⟩) ∨
    ((fs' ⟨fam, .base⟩ = .absent ∨ fs' ⟨fam, .base⟩ = .complete d.v d.n
        ∨ ∃ k, cp.inside = some k ∧ fs' ⟨fam, .base⟩ = .torn k d.exc) ∧
      ((fs ⟨fam, .base⟩ ≠ .absent ∧ fs' ⟨fam, .old⟩ = fs ⟨fam, .base⟩) ∨
       (fs ⟨fam, .base⟩ = .absent ∧ fs' ⟨fam, .old⟩ = fs ⟨fam, .old⟩)))
  final : ∀ (fam : Fam) (d : Dump) (fs : FS),
    runProg prog fam d fs ⟨fam, .base⟩ = .complete d.v d.n

theorem saveSpec_rot_save : SaveSpec [rot .base .old, .op (.save .base)] := by
  constructor
  · intro fam d fs cp
    rcases crashState_rot .base .old [.op (.save .base)] fam d fs cp with e | ⟨j, e⟩
    · exact .inl ⟨congrFun e _, congrFun e _⟩
    · rw [e]
      obtain ⟨h1, h2⟩ := crashState_save .base fam d (rotated fam .base .old fs) ⟨j, cp.inside, cp.flushed⟩
      refine .inr ⟨h1.imp_left (·.trans (rotated_src ..)), ?_⟩
      rw [h2 .old (by decide)]
      exact rotated_dst fam .base .old (by decide) fs
  · intro fam d fs
    rw [runProg_rot]
    exact FS.set_same ..

theorem SaveSpec.old_survives {prog : List Stmt} (hs : SaveSpec prog) (fam : Fam) (d : Dump) (fs : FS) (cp : CrashPt)
    (h : fs ⟨fam, .base⟩ ≠ .absent) :
    crashState prog fam d fs cp ⟨fam, .base⟩ = fs ⟨fam, .base⟩ ∨
    crashState prog fam d fs cp ⟨fam, .old⟩ = fs ⟨fam, .base⟩ := by
  rcases hs.views fam d fs cp with ⟨h1, _⟩ | ⟨_, ⟨_, h2⟩ | ⟨h2, _⟩⟩
  · exact .inl h1
  · exact .inr h2
  · exact absurd h2 h

/-- the checkpoint pair is in a state from which `prev` is what a resume must return -/
def CkptGood (fs : FS) (prev : Option (Nat × Nat)) : Prop :=
  (fs cb).isTorn = false ∧ (fs co).isTorn = false ∧
  match prev with
  | none => fs cb = .absent ∧ fs co = .absent
  | some (v, n) => fs cb = .complete v n ∨ (fs cb = .absent ∧ fs co = .complete v n)

/-- what a resume must return from a good state: the checkpoint `prev`, with whatever weights
its recorded path/count brings back -/
def specOf (kind : Kind) (cfg : ResumeCfg) (fs : FS) : Option (Nat × Nat) → Outcome
  | none => .fresh
  | some (v, n) => .loaded v n (weightsBack kind cfg fs n).1 (weightsBack kind cfg fs n).2

/-- the resume logic returns what `CkptGood` promises provided the weights the
candidate pickles refer to can be loaded -/
def ResumeSpec (cfg : ResumeCfg) : Prop :=
  ∀ (kind : Kind) (top : Nat) (fs : FS) (prev : Option (Nat × Nat)), CkptGood fs prev →
    (∀ p v n, (p = cb ∨ p = co) → fs p = .complete v n → weightsResume kind cfg top fs n = none) →
    resume kind cfg top fs = specOf kind cfg fs prev

theorem CkptGood.untorn {fs : FS} {prev} (h : CkptGood fs prev) :
    (fs cb).isTorn = false ∧ (fs co).isTorn = false := ⟨h.1, h.2.1⟩

theorem CkptGood.congr {fs fs' : FS} {prev} (h : CkptGood fs prev) (he : ∀ p : Path, p.fam = .ckpt → fs' p = fs p) :
    CkptGood fs' prev := by
  unfold CkptGood at *
  rw [he cb rfl, he co rfl]; exact h

theorem version_specOf (kind : Kind) (cfg : ResumeCfg) (fs : FS) (prev : Option (Nat × Nat)) :
    (specOf kind cfg fs prev).version = some (prev.map Prod.fst) := by
  cases prev <;> rfl

/-- one dump killed anywhere keeps `prev` loadable or makes the new version the one -/
theorem DumpView.good {d : Dump} {fs fs' : FS} (hv : DumpView d fs fs') {prev} (h : CkptGood fs prev) :
    CkptGood fs' prev ∨ CkptGood fs' (some (d.v, d.n)) := by
  obtain ⟨hb, ho, hp⟩ := h
  unfold CkptGood
  rcases hv with ⟨h1 | h1, h2⟩ | ⟨hne, h1 | h1, h2⟩
  · -- unchanged
    rw [h1, h2]
    exact .inl ⟨hb, ho, hp⟩
  · -- new, no rotation
    rw [h1, h2]
    exact .inr ⟨rfl, ho, .inl rfl⟩
  · -- rotated, killed before publish: `prev` was in the checkpoint and is in `.old`
    rw [h1, h2]
    refine .inl ⟨rfl, hb, ?_⟩
    match prev, hp with
    | none, hp => exact absurd hp.1 hne
    | some (v, n), .inl hp => exact .inr ⟨rfl, hp⟩
    | some (v, n), .inr hp => exact absurd hp.1 hne
  · -- rotated, new
    rw [h1, h2]
    exact .inr ⟨rfl, hb, .inl rfl⟩

theorem DumpSpec.good_run {prog} (hd : DumpSpec prog) (se : Bool) (d : Dump) {fs : FS} {prev} (h : CkptGood fs prev) :
    CkptGood (runProg (prog se) .ckpt d fs) (some (d.v, d.n)) := by
  rcases (hd.views se d fs none).good h with h' | h'
  · exact ⟨h'.1, h'.2.1, .inl (hd.final se d fs)⟩
  · exact h'

/-- provenance: after a (possibly killed) dump each file of the checkpoint pair holds what one of the pair held before,
nothing, or the new dump -/
theorem DumpView.prov {d : Dump} {fs fs' : FS} (hv : DumpView d fs fs') (p : Path) (hp : p = cb ∨ p = co) :
    fs' p = fs cb ∨ fs' p = fs co ∨ fs' p = .absent ∨ fs' p = .complete d.v d.n := by
  rcases hv with ⟨h1 | h1, h2⟩ | ⟨_, h1 | h1, h2⟩ <;> rcases hp with rfl | rfl <;> simp [h1, h2]

theorem loadAll_eq_findSome? (fs : FS) (l : List Nat) :
    loadAll fs l = l.findSome? fun i => loadWeights fs ⟨.level i, .base⟩ := by
  induction l with
  | nil => rfl
  | cons i r ih => rw [loadAll, List.findSome?_cons, ih]; cases loadWeights fs ⟨.level i, .base⟩ <;> rfl

theorem countLevels_eq_countP (fs : FS) (t : Nat) :
    countLevels fs t = (List.range t).countP fun i => fs.has ⟨.level i, .base⟩ := by
  induction t with
  | zero => rfl
  | succ t ih => rw [countLevels, ih, List.range_succ, List.countP_append, List.countP_singleton]

theorem weightsResume_congr (kind : Kind) (cfg : ResumeCfg) (top : Nat) (fs fs' : FS) (n : Nat)
    (h : ∀ p : Path, p.fam ≠ .ckpt → fs' p = fs p) :
    weightsResume kind cfg top fs' n = weightsResume kind cfg top fs n := by
  cases kind with
  | std =>
    have h2 := h wo (by simp)
    have h3 := h ⟨.weights, primary n⟩ (by simp)
    simp only [weightsResume, stdWeightsResume, fallbackContent, loadWeights, FS.has, h2, h3]
    rfl
  | ins =>
    have hl : ∀ i, fs' ⟨.level i, .base⟩ = fs ⟨.level i, .base⟩ := fun i => h _ (by simp)
    simp only [weightsResume, insWeightsResume, countLevels_eq_countP, loadAll_eq_findSome?, loadWeights, FS.has, hl]

theorem weightsBack_congr (kind : Kind) (cfg : ResumeCfg) (fs fs' : FS) (n : Nat)
    (h : ∀ p : Path, p.fam ≠ .ckpt → fs' p = fs p) :
    weightsBack kind cfg fs' n = weightsBack kind cfg fs n := by
  cases kind with
  | ins => rfl
  | std =>
    have h2 := h wo (by simp)
    have h3 := h ⟨.weights, primary n⟩ (by simp)
    simp only [weightsBack, stdWeightsBack, fallbackBack, fallbackContent, FS.has, h2, h3]
    rfl

/-- the first `m` level files are complete -/
def LevelsDone (fs : FS) (m : Nat) : Prop :=
  ∀ i, i < m → ∃ v k, fs ⟨.level i, .base⟩ = .complete v k

/-- importance sampler: a pickle that records `n ≤ m` levels can be resumed when the first `m` level files are complete -/
theorem ins_ok (fs : FS) (top m n : Nat) (hn : n ≤ m) (hm : m ≤ top) (hl : LevelsDone fs m) :
    insWeightsResume top fs n = none := by
  have hex : ∀ i ∈ List.range n, ∃ v k, fs ⟨.level i, .base⟩ = .complete v k := fun i hi =>
    hl i (by have := List.mem_range.1 hi; omega)
  have hall : (List.range n).countP (fun i => fs.has ⟨.level i, .base⟩) = n := by
    rw [List.countP_eq_length.2, List.length_range]
    intro i hi
    obtain ⟨v, k, hv⟩ := hex i hi
    simp [FS.has, hv, Content.exists?]
  have hc : n ≤ countLevels fs top := by
    rw [countLevels_eq_countP, ← hall]
    exact (List.range_sublist.2 (by omega)).countP_le
  rw [insWeightsResume, if_neg (by omega), loadAll_eq_findSome?, List.findSome?_eq_none_iff]
  intro i hi
  obtain ⟨v, k, hv⟩ := hex i hi
  simp [loadWeights, hv, loadContent]

section
variable {kind : Kind} {cfg : ResumeCfg} {top : Nat} {fs : FS} {s : Suffix}

theorem attempt_absent (h : fs ⟨.ckpt, s⟩ = .absent) : attempt kind cfg top fs s = .raises .fileNotFound := by
  simp only [attempt, h]

theorem attempt_raises {v n : Nat} {e : Exc} (hc : fs ⟨.ckpt, s⟩ = .complete v n)
    (hw : weightsResume kind cfg top fs n = some e) : attempt kind cfg top fs s = .raises e := by
  simp only [attempt, hc, hw]

theorem attempt_loaded {v n : Nat} (hc : fs ⟨.ckpt, s⟩ = .complete v n) (hw : weightsResume kind cfg top fs n = none) :
    attempt kind cfg top fs s = specOf kind cfg fs (some (v, n)) := by
  simp only [attempt, hc, hw, specOf]

theorem resume_fresh (h : (cfg.candidates.any fun s => fs.has ⟨.ckpt, s⟩) = false) : resume kind cfg top fs = .fresh := by
  simp only [resume, h, Bool.not_false, if_true]

theorem resume_first {v n w m : Nat} (hc : (cfg.candidates.any fun s => fs.has ⟨.ckpt, s⟩) = true)
    (h1 : attempt kind cfg top fs cfg.first = .loaded v n w m) : resume kind cfg top fs = .loaded v n w m := by
  simp only [resume, hc, h1, Bool.not_true, Bool.false_eq_true, if_false]

theorem resume_second {e : Exc} {v n w m : Nat} (hc : (cfg.candidates.any fun s => fs.has ⟨.ckpt, s⟩) = true)
    (h1 : attempt kind cfg top fs cfg.first = .raises e) (he : catches cfg.catchFirst e = true)
    (h2 : attempt kind cfg top fs cfg.second = .loaded v n w m) : resume kind cfg top fs = .loaded v n w m := by
  simp only [resume, hc, h1, he, h2, Bool.not_true, Bool.false_eq_true, if_false, if_true]

theorem resume_raises {e1 e2 : Exc} (hc : (cfg.candidates.any fun s => fs.has ⟨.ckpt, s⟩) = true)
    (h1 : attempt kind cfg top fs cfg.first = .raises e1) (h2 : attempt kind cfg top fs cfg.second = .raises e2) :
    (resume kind cfg top fs).version = none := by
  simp only [resume, hc, h1, h2, Bool.not_true, Bool.false_eq_true, if_false]
  repeat' split
  all_goals rfl

theorem memAfter_attempt_le {b : Nat} (h : ∀ v n, fs ⟨.ckpt, s⟩ = .complete v n → (weightsBack kind cfg fs n).2 ≤ b) :
    memAfter (attempt kind cfg top fs s) ≤ b := by
  unfold attempt
  split
  · exact Nat.zero_le _
  · exact Nat.zero_le _
  · rename_i v n hc
    split
    · exact h v n hc
    · exact Nat.zero_le _

theorem memAfter_resume_le {b : Nat} (h1 : memAfter (attempt kind cfg top fs cfg.first) ≤ b)
    (h2 : memAfter (attempt kind cfg top fs cfg.second) ≤ b) : memAfter (resume kind cfg top fs) ≤ b := by
  -- every branch is a fresh start or an exception, with nothing in memory, or one of the two attempts
  unfold resume
  split
  · exact Nat.zero_le _
  · split
    · split
      · split
        · split <;> exact Nat.zero_le _
        · exact h2
      · exact Nat.zero_le _
    · exact h1

end

end NessaiVerif.CrashFS
