import Mathlib.Algebra.BigOperators.Ring.List
import Mathlib.Algebra.Field.Basic
import Mathlib.Tactic.Ring
import Mathlib.Tactic.FieldSimp
/- Three facts about `List.sum` over a field: division through a sum, and the sum of squared deviations in two forms.  The
models' own folds reach them through their bridges to `List.sum` (`Quad.sumL_eq_sum`, `Loops.sumK_eq_sum`,
`Resample.lsum_eq_sum`). -/
namespace NessaiVerif

variable {K : Type} [Field K]

theorem sum_map_div (w : List K) (a : K) : (w.map (· / a)).sum = w.sum / a := by
  simp only [div_eq_mul_inv, List.sum_map_mul_right, List.map_id']

theorem sum_sq_dev (w : List K) (z : K) :
    (w.map fun x => (x - z) * (x - z)).sum =
      (w.map fun x => x * x).sum - 2 * z * w.sum + (w.length : K) * (z * z) := by
  induction w with
  | nil => simp
  | cons x xs ih => simp only [List.map_cons, List.sum_cons, ih, List.length_cons, Nat.cast_succ]; ring

theorem sum_sq_dev_mean (w : List K) (hN : (w.length : K) ≠ 0) :
    (w.map fun x => (x - w.sum / w.length) * (x - w.sum / w.length)).sum =
      (w.map fun x => x * x).sum - w.sum * w.sum / w.length := by
  rw [sum_sq_dev]; field_simp; ring

end NessaiVerif
