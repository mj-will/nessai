import NessaiVerif.Model.Accounts
import NessaiVerif.Model.AccountsTables
/-
C12 — the code-shaped account state (`St`) and the commit log (`Log`) are stepped side by side: `step_rules` lists their
transitions once, and each invariant linking the two (`Inv`, `InvT`, `InvTle`) is proved rule by rule.  What the log
retains of the steps performed is an induction on the history alone.
-/
namespace NessaiVerif.Accounts

theorem sumE_append (a b) : sumE (a ++ b) = sumE a + sumE b := by simp [sumE]
theorem sumT_append (a b) : sumT (a ++ b) = sumT a + sumT b := by simp [sumT]
theorem sumL_append (a b) : sumL (a ++ b) = sumL a + sumL b := by simp [sumL]
@[simp] theorem sumE_nil : sumE [] = 0 := rfl
@[simp] theorem sumT_nil : sumT [] = 0 := rfl
@[simp] theorem sumL_nil : sumL [] = 0 := rfl
@[simp] theorem sumE_single (e t l) : sumE [(e, t, l)] = e := by simp [sumE]
@[simp] theorem sumT_single (e t l) : sumT [(e, t, l)] = t := by simp [sumT]
@[simp] theorem sumL_single (e t l) : sumL [(e, t, l)] = l := by simp [sumL]

/-- The transitions of code state and commit log side by side, for states that agree on the control position:
seven rules, and every other combination of operation and state changes neither. -/
theorem step_rules {motive : Op → St → Log → Prop} (c : Cfg) {s : St} {l : Log}
    (ha : l.alive = s.alive) (hi : l.inLoop = s.inLoop)
    (fresh : s.file = none →
      motive Op.resume { s with alive := true, inLoop := false, mEvals := if c.freshModel then 0 else s.mEvals,
                                mLtime := if c.freshModel then 0 else s.mLtime, stime := 0, start := s.clock }
        { l with alive := true, inLoop := false, pending := [] })
    (resume : ∀ sv, s.file = some sv →
      motive Op.resume { s with alive := true, inLoop := false, mEvals := (if c.freshModel then 0 else s.mEvals) + sv.evals,
                                mLtime := (if c.freshModel then 0 else s.mLtime) + sv.ltime, stime := sv.stime,
                                start := if c.rearmOnResume then s.clock else sv.start }
        { l with alive := true, inLoop := false, pending := [] })
    (enter : s.alive = true → s.inLoop = false →
      motive Op.enterLoop { s with inLoop := true, start := if c.resetStart then s.clock else s.start } { l with inLoop := true })
    (run : ∀ e t lt, s.alive = true →
      motive (.run e t lt) { s with clock := s.clock + t, mEvals := s.mEvals + e, mLtime := s.mLtime + lt }
        { l with pending := l.pending ++ [(e, if s.inLoop then t else 0, lt)] })
    (checkpoint : s.alive = true →
      motive Op.checkpoint { s with stime := s.current, file := some ⟨s.mEvals, s.mLtime, s.current, s.start⟩, start := s.clock }
        { l with committed := l.retained, pending := [], hasFile := true })
    (kill : motive Op.kill { s with alive := false, inLoop := false } { l with alive := false, inLoop := false })
    (down : ∀ d, s.alive = false → motive (.down d) { s with clock := s.clock + d } l)
    (idle : ∀ op, motive op s l) : ∀ op, motive op (step c s op) (logStep l op)
  | .resume => by
    cases h : s.file with
    | none => simpa [step, logStep, h] using fresh h
    | some sv => simpa [step, logStep, h] using resume sv h
  | .enterLoop => by
    cases h1 : s.alive <;> cases h2 : s.inLoop
    -- only a live process outside the loop enters it
    case true.false => simpa [step, logStep, ha, hi, h1, h2] using enter h1 h2
    all_goals simpa [step, logStep, ha, hi, h1, h2] using idle _
  | .run e t lt => by
    cases h1 : s.alive
    · simpa [step, logStep, ha, hi, h1] using idle _
    · simpa [step, logStep, ha, hi, h1] using run e t lt h1
  | .checkpoint => by
    cases h1 : s.alive
    · simpa [step, logStep, ha, h1] using idle _
    · simpa [step, logStep, ha, h1, St.current, Log.retained] using checkpoint h1
  | .kill => kill
  | .down d => by
    cases h1 : s.alive
    · simpa [step, logStep, h1] using down d h1
    · simpa [step, logStep, h1] using idle _

/-- Code state and commit log agree on the control position and on the two likelihood counters (memory and file). -/
structure Inv (s : St) (l : Log) : Prop where
  alive : l.alive = s.alive
  inLoop : l.inLoop = s.inLoop
  noFile : s.file = none → l.committed = []
  file : ∀ sv, s.file = some sv → sv.evals = sumE l.committed ∧ sv.ltime = sumL l.committed
  evals : s.mEvals = sumE l.committed + sumE l.pending
  ltime : s.mLtime = sumL l.committed + sumL l.pending

theorem Inv.init : Inv {} {} := ⟨rfl, rfl, fun _ => rfl, nofun, rfl, rfl⟩

theorem Inv.step {c : Cfg} (hf : c.freshModel = true) {s : St} {l : Log} (h : Inv s l) :
    ∀ op, Inv (step c s op) (logStep l op) := by
  obtain ⟨ha, hi, hn, hfile, he, hl⟩ := h
  refine step_rules (motive := fun _ s l => Inv s l) c ha hi ?_ ?_ ?_ ?_ ?_ ?_ ?_ fun _ => ⟨ha, hi, hn, hfile, he, hl⟩
  · intro h0  -- fresh
    exact ⟨rfl, rfl, hn, hfile, by simp [hf, hn h0], by simp [hf, hn h0]⟩
  · intro sv h0  -- resume
    exact ⟨rfl, rfl, hn, hfile, by simp [hf, (hfile sv h0).1], by simp [hf, (hfile sv h0).2]⟩
  · exact fun _ _ => ⟨ha, rfl, hn, hfile, he, hl⟩  -- enter
  · intro e t lt _  -- run
    exact ⟨ha, hi, hn, hfile, by simp [sumE_append, he, Nat.add_assoc], by simp [sumL_append, hl, Nat.add_assoc]⟩
  · intro _  -- checkpoint
    have he' : s.mEvals = sumE l.retained := by rw [he, Log.retained, sumE_append]
    have hl' : s.mLtime = sumL l.retained := by rw [hl, Log.retained, sumL_append]
    exact ⟨ha, hi, nofun, by rintro _ ⟨⟩; exact ⟨he', hl'⟩, he', hl'⟩
  · exact ⟨rfl, rfl, hn, hfile, he, hl⟩  -- kill
  · exact fun d _ => ⟨ha, hi, hn, hfile, he, hl⟩  -- down

/-- Sampling time is exact when the loop re-arms the start and checkpoints are written inside the loop. -/
structure InvT (s : St) (l : Log) : Prop where
  file : ∀ sv, s.file = some sv → sv.stime = sumT l.committed
  stime : s.stime = sumT l.committed
  inLoop : s.alive = true → s.inLoop = true → s.start ≤ s.clock ∧ s.clock - s.start = sumT l.pending
  preLoop : s.alive = true → s.inLoop = false → sumT l.pending = 0

theorem InvT.init : InvT {} {} := ⟨nofun, rfl, nofun, fun _ _ => rfl⟩

theorem InvT.step {c : Cfg} (hr : c.resetStart = true) {s : St} {l : Log} (hc : Inv s l) (h : InvT s l) (op : Op)
    (hck : op = .checkpoint → s.alive = true → s.inLoop = true) : InvT (step c s op) (logStep l op) := by
  obtain ⟨hfile, hst, hin, hpre⟩ := h
  -- `hck` goes into the motive: `step_rules` concludes for every `op`, and its `checkpoint` rule is where `hck` is used
  refine step_rules (motive := fun op s' l' => (op = .checkpoint → s.alive = true → s.inLoop = true) → InvT s' l')
    c hc.alive hc.inLoop ?_ ?_ ?_ ?_ ?_ ?_ ?_ (fun _ _ => ⟨hfile, hst, hin, hpre⟩) op hck
  · intro h0 _  -- fresh
    exact ⟨hfile, by simp [hc.noFile h0], nofun, fun _ _ => rfl⟩
  · intro sv h0 _  -- resume
    exact ⟨hfile, hfile sv h0, nofun, fun _ _ => rfl⟩
  · intro h1 h2 _  -- enter
    exact ⟨hfile, hst, fun _ _ => by simp [hr, hpre h1 h2], nofun⟩
  · intro e t lt h1 _  -- run
    refine ⟨hfile, hst, fun _ (h2 : s.inLoop = true) => ?_, fun _ (h2 : s.inLoop = false) => ?_⟩
    · have := hin h1 h2
      simp [sumT_append, h2]; omega
    · simp [sumT_append, h2, hpre h1 h2]
  · intro h1 hck  -- checkpoint
    obtain ⟨h3, h4⟩ := hin h1 (hck rfl h1)
    have : s.current = sumT l.retained := by simp [St.current, Log.retained, sumT_append, hst, h4]
    exact ⟨by rintro _ ⟨⟩; exact this, this, fun _ _ => by simp, fun _ _ => rfl⟩
  · intro _  -- kill
    exact ⟨hfile, hst, nofun, nofun⟩
  · intro d h1 _  -- down
    exact ⟨hfile, hst, fun h => by simp [h1] at h, fun h => by simp [h1] at h⟩

/-- Whatever the configuration, sampling time is never lost. -/
structure InvTle (s : St) (l : Log) : Prop where
  file : ∀ sv, s.file = some sv → sumT l.committed ≤ sv.stime ∧ sv.start ≤ s.clock
  stime : sumT l.committed ≤ s.stime
  live : s.alive = true → s.start ≤ s.clock ∧ sumT l.pending ≤ s.clock - s.start
  preLoop : s.alive = true → s.inLoop = false → sumT l.pending = 0

theorem InvTle.init : InvTle {} {} := ⟨nofun, Nat.le_refl _, nofun, fun _ _ => rfl⟩

theorem InvTle.step {c : Cfg} {s : St} {l : Log} (hc : Inv s l) (h : InvTle s l) :
    ∀ op, InvTle (step c s op) (logStep l op) := by
  obtain ⟨hfile, hst, hlive, hpre⟩ := h
  refine step_rules (motive := fun _ s l => InvTle s l) c hc.alive hc.inLoop ?_ ?_ ?_ ?_ ?_ ?_ ?_ fun _ => ⟨hfile, hst, hlive, hpre⟩
  · intro h0  -- fresh
    exact ⟨hfile, by simp [hc.noFile h0], fun _ => by simp, fun _ _ => rfl⟩
  · intro sv h0  -- resume
    obtain ⟨h1, h2⟩ := hfile sv h0
    exact ⟨hfile, h1, fun _ => by cases c.rearmOnResume <;> simp [h2], fun _ _ => rfl⟩
  · intro h1 h2  -- enter
    have := hlive h1
    exact ⟨hfile, hst, fun _ => by cases c.resetStart <;> simp [hpre h1 h2, this.1], nofun⟩
  · intro e t lt h1  -- run
    have := hlive h1
    refine ⟨fun sv h0 => ?_, hst, fun _ => ?_, fun _ (h2 : s.inLoop = false) => ?_⟩
    · have := hfile sv h0
      exact ⟨this.1, by simp; omega⟩
    · cases h2 : s.inLoop
      · simp [sumT_append, hpre h1 h2]; omega
      · simp [sumT_append]; omega
    · simp [sumT_append, h2, hpre h1 h2]
  · intro h1  -- checkpoint
    have := hlive h1
    have h2 : sumT l.retained ≤ s.current := by simp [St.current, Log.retained, sumT_append]; omega
    exact ⟨by rintro _ ⟨⟩; exact ⟨h2, this.1⟩, h2, fun _ => by simp, fun _ _ => rfl⟩
  · exact ⟨hfile, hst, nofun, nofun⟩  -- kill
  · intro d h1  -- down
    exact ⟨fun sv h0 => ⟨(hfile sv h0).1, by have := (hfile sv h0).2; simp; omega⟩, hst,
      fun h => by simp [h1] at h, fun h => by simp [h1] at h⟩

theorem exec_induction {c : Cfg} {P : St → Log → List Op → Prop}
    (hstep : ∀ s l op h, P s l (op :: h) → P (step c s op) (logStep l op) h) :
    ∀ h s l, P s l h → P (exec c s h) (logOf l h) []
  | [], _, _, hP => hP
  | op :: h, s, l, hP => exec_induction hstep h _ _ (hstep s l op h hP)

theorem Inv.exec {c : Cfg} (hf : c.freshModel = true) (h : List Op) : Inv (exec c {} h) (logOf {} h) :=
  exec_induction (P := fun s l _ => Inv s l) (fun _ _ op _ hi => hi.step hf op) h _ _ .init

theorem ckptInLoop_cons (l : Log) (op : Op) (h : List Op) (hk : ckptInLoop l.alive l.inLoop (op :: h) = true) :
    (op = .checkpoint → l.alive = true → l.inLoop = true)
      ∧ ckptInLoop (logStep l op).alive (logStep l op).inLoop h = true := by
  cases op with
  | resume => exact ⟨nofun, hk⟩
  | kill => exact ⟨nofun, hk⟩
  | down d => exact ⟨nofun, hk⟩
  | run e t lt => cases ha : l.alive <;> simp_all [ckptInLoop, logStep]
  | enterLoop => cases ha : l.alive <;> cases hi : l.inLoop <;> simp_all [ckptInLoop, logStep]
  | checkpoint => cases ha : l.alive <;> cases hi : l.inLoop <;> simp_all [ckptInLoop, logStep]

theorem InvT.exec {c : Cfg} (hf : c.freshModel = true) (hr : c.resetStart = true) (h : List Op)
    (hk : ckptInLoop false false h = true) : InvT (exec c {} h) (logOf {} h) :=
  (exec_induction (P := fun s l h => Inv s l ∧ InvT s l ∧ ckptInLoop l.alive l.inLoop h = true)
    (fun s l op h ⟨hi, ht, hk⟩ =>
      have ⟨h1, h2⟩ := ckptInLoop_cons l op h hk
      ⟨hi.step hf op, ht.step hr hi op (by rw [← hi.alive, ← hi.inLoop]; exact h1), h2⟩)
    h {} {} ⟨.init, .init, hk⟩).2.1

theorem InvTle.exec {c : Cfg} (hf : c.freshModel = true) (h : List Op) : InvTle (exec c {} h) (logOf {} h) :=
  (exec_induction (P := fun s l _ => Inv s l ∧ InvTle s l) (fun _ _ op _ ⟨hi, ht⟩ => ⟨hi.step hf op, ht.step hi op⟩)
    h {} {} ⟨.init, .init⟩).2

/-- what the log retains plus what is still to be performed -/
abbrev Log.total (l : Log) (h : List Op) := l.retained ++ performed l.alive l.inLoop h

/-- A step other than a resume that finds pending steps (those of a killed process) loses nothing. -/
theorem total_step_eq (l : Log) (op : Op) (h : List Op) (hp : op = .resume → l.pending = []) :
    (logStep l op).total h = l.total (op :: h) := by
  cases op with
  | resume => simp [Log.total, logStep, performed, Log.retained, hp rfl]
  | enterLoop => cases ha : l.alive <;> cases hi : l.inLoop <;> simp [Log.total, logStep, performed, Log.retained, ha, hi]
  | run e t lt => cases ha : l.alive <;> simp [Log.total, logStep, performed, Log.retained, ha]
  | checkpoint => cases ha : l.alive <;> simp [Log.total, logStep, performed, Log.retained, ha]
  | kill => rfl
  | down d => rfl

theorem total_step_sublist (l : Log) (op : Op) (h : List Op) : ((logStep l op).total h).Sublist (l.total (op :: h)) := by
  by_cases hp : op = .resume
  · subst hp
    simp [Log.total, logStep, performed, Log.retained]
  · exact total_step_eq l op h (absurd · hp) ▸ .refl _

theorem retained_sublist (h : List Op) (l : Log) : ((logOf l h).retained).Sublist (l.total h) := by
  induction h generalizing l with
  | nil => simp [Log.total, logOf, performed]
  | cons op h ih => exact (ih _).trans (total_step_sublist l op h)

theorem wellFormed_cons (l : Log) (op : Op) (h : List Op) (hw : wellFormed l.alive (op :: h) = true) :
    (op = .resume → l.alive = false) ∧ wellFormed (logStep l op).alive h = true := by
  obtain ⟨a, _, _, _, _⟩ := l
  cases op <;> cases a <;> simp_all [wellFormed, logStep]

theorem pending_nil_step (l : Log) (op : Op) (hop : op ≠ .kill) (hp : l.alive = false → l.pending = []) :
    (logStep l op).alive = false → (logStep l op).pending = [] := by
  obtain ⟨a, _, _, _, _⟩ := l
  cases op <;> cases a <;> simp_all [logStep]

theorem retained_all_without_kill (h : List Op) (l : Log) (hp : l.alive = false → l.pending = [])
    (hw : wellFormed l.alive h = true) (hk : ∀ op ∈ h, op ≠ Op.kill) : (logOf l h).retained = l.total h := by
  induction h generalizing l with
  | nil => simp [Log.total, logOf, performed]
  | cons op h ih =>
    obtain ⟨h1, h2⟩ := wellFormed_cons l op h hw
    rw [← total_step_eq l op h fun ho => hp (h1 ho)]
    exact ih _ (pending_nil_step l op (hk op (List.mem_cons_self ..)) hp) h2 fun o ho => hk o (List.mem_cons_of_mem _ ho)

end NessaiVerif.Accounts

namespace NessaiVerif.AccountsTables

theorem lookup_filter_key {α : Type} (p : String → Bool) (f : String) (s : List (String × α)) :
    (s.filter fun kv => p kv.1).lookup f = if p f then s.lookup f else none := by
  induction s with
  | nil => simp
  | cons kv s ih =>
    obtain ⟨k, v⟩ := kv
    by_cases hk : f = k
    · subst hk
      cases hp : p f <;> simp [hp, ih]
    · have hk' : (f == k) = false := by simpa using hk
      cases hp : p k <;> simp [List.lookup_cons, hp, hk', ih]

theorem resume_pickle_lookup {α : Type} (ts : List ClassTable) (sites : List Site) (c f : String)
    (s fresh : List (String × α)) (hd : dropped ts c f = false) (ht : touched ts sites c f = false) :
    (resumeState ts sites c fresh (pickleState ts c s)).lookup f = s.lookup f := by
  simp [resumeState, pickleState, List.lookup_append, lookup_filter_key (fun k => touched ts sites c k),
    lookup_filter_key (fun k => !dropped ts c k), hd, ht]

end NessaiVerif.AccountsTables
