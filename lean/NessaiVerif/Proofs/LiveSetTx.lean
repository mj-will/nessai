import NessaiVerif.Gen.LiveSetTx
/-
C01 — what the Python/NumPy indexing operations of Model/PySlice.lean do on the bounds that the definition GENERATED from
`NestedSampler.insert_live_point` (Gen/LiveSetTx.lean) uses: natural-number bounds, and `-1`.
-/
namespace NessaiVerif.LiveSetTx
open NessaiVerif.Py

/-- NumPy's exceptions as the model names them.  The image of `.type` is arbitrary: `setSlice` fails only with `.value`
and `setItem` only with `.index`, so the generated `insert_live_point` never returns it. -/
def toLS : Py.Err → LiveSet.Err
  | .value => .shape
  | .index => .index
  | .type => .index

theorem normBound_nat (n k : Nat) : normBound n (k : Int) = min k n := by
  rw [normBound, if_neg (by omega), Int.toNat_natCast]

theorem normBound_neg_one (n : Nat) : normBound n (-1) = n - 1 := by
  rw [normBound, if_pos (by decide), Int.add_comm]
  exact Int.toNat_sub n 1

theorem normBound_one (n : Nat) : normBound n (1 : Int) = min 1 n := normBound_nat n 1

theorem getSlice_one (l : List α) (k : Nat) (h : k + 1 ≤ l.length) :
    getSlice l (some (1 : Int)) (some ((k + 1 : Nat) : Int)) = (l.take (k + 1)).drop 1 := by
  simp only [getSlice, sliceRange, normBound_one, normBound_nat]
  have hstart : min 1 l.length = 1 := by omega
  have hstop : max 1 (min (k + 1) l.length) = k + 1 := by omega
  rw [hstart, hstop]

theorem getSlice_one_zero (l : List α) : getSlice l (some (1 : Int)) (some ((0 : Nat) : Int)) = [] := by
  simp only [getSlice, sliceRange, normBound_one, normBound_nat, Nat.zero_min, Nat.max_zero]
  exact List.drop_of_length_le (by simp)

theorem setSlice_prefix (l v : List α) (k : Nat) (hk : k ≤ l.length) (hv : v.length = k) :
    setSlice l none (some (k : Int)) v = .ok (v ++ l.drop k) := by
  simp only [setSlice, sliceRange, normBound_nat, Nat.zero_max, Nat.min_eq_left hk, Nat.sub_zero, hv, if_true,
    List.take_zero, List.nil_append]

theorem setItem_nat (l : List α) (k : Nat) (h : k < l.length) (x : α) :
    setItem l (k : Int) x = .ok (l.set k x) := by
  simp only [setItem, normIndex, Int.natCast_nonneg, if_true, Int.toNat_natCast, h]

theorem setItem_neg_one (l : List α) (x : α) :
    setItem l (-1) x = if l.length = 0 then .error .index else .ok (l.set (l.length - 1) x) := by
  unfold setItem normIndex
  rw [if_neg (by decide)]
  by_cases h : l.length = 0
  · rw [if_pos h, if_neg (by omega)]
  · have hpos : (0 : Int) ≤ -1 + (l.length : Int) := by omega
    have hnat : (-1 + (l.length : Int)).toNat = l.length - 1 := by omega
    rw [if_neg h, if_pos hpos, hnat]

theorem setSlice_neg_one_nil (l : List α) :
    setSlice l none (some (-1)) ([] : List α) = if l.length ≤ 1 then .ok (l.drop (l.length - 1)) else .error .value := by
  simp only [setSlice, sliceRange, normBound_neg_one, Nat.zero_max, Nat.sub_zero, List.length_nil, List.take_zero,
    List.nil_append]
  by_cases h : l.length ≤ 1
  · rw [if_pos h, if_pos (by omega)]
  · rw [if_neg h, if_neg (by omega)]
end NessaiVerif.LiveSetTx
