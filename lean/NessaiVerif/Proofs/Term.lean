import NessaiVerif.Model.Term
/-
C20 — four of the stream loops of Model/Term.lean (`populateStd`, `insLoop`, `nsLive`, `insLive`) are instances of one
recursion, `run`. Invariant, termination by a measure, non-termination and the exact criterion are proved for `run` once;
each of the four then contributes only what its body does to the fields of the state. `populateAcc`, `finalLoop` and the
fuel loops have inductions of their own.
-/
namespace NessaiVerif.Term

section run
variable {σ β : Type}

/-- The recursion shared by the loops that consume a stream: `populateStd`, `insLoop`, `nsLive` and `insLive` are
instances (`…_eq_run`). -/
def run (exit : σ → Prop) [DecidablePred exit] (step : σ → β → σ) : List β → σ → Outcome σ
  | [], s => if exit s then .done s else .spin s
  | b :: bs, s => if exit s then .done s else run exit step bs (step s b)

variable {exit : σ → Prop} [DecidablePred exit] {step : σ → β → σ}

theorem run_of_exit {s : σ} (h : exit s) (bs : List β) : run exit step bs s = .done s := by
  cases bs <;> simp [run, h]

theorem run_cons_of_not_exit {s : σ} (h : ¬ exit s) (b : β) (bs : List β) :
    run exit step (b :: bs) s = run exit step bs (step s b) := by
  simp [run, h]

/-- `I` is an invariant of the loop body (asked of it only while `exit` fails); `c` is any field of the state that counts
the iterations, e.g. `used` or `draws`. -/
theorem run_inv (I : σ → Prop) (c : σ → Nat) (hc : ∀ s b, c (step s b) = c s + 1) {bs : List β} {s : σ}
    (hstep : ∀ b ∈ bs, ∀ s, I s → ¬ exit s → I (step s b)) (hI : I s) :
    (∃ t, run exit step bs s = .done t ∧ I t ∧ exit t ∧ c t ≤ c s + bs.length) ∨
    (∃ t, run exit step bs s = .spin t ∧ I t ∧ ¬ exit t ∧ c t = c s + bs.length) := by
  induction bs generalizing s with
  | nil =>
    by_cases he : exit s
    · exact .inl ⟨s, run_of_exit he _, hI, he, Nat.le_refl _⟩
    · exact .inr ⟨s, by simp [run, he], hI, he, rfl⟩
  | cons b bs ih =>
    by_cases he : exit s
    · exact .inl ⟨s, run_of_exit he _, hI, he, Nat.le_add_right ..⟩
    · rw [run_cons_of_not_exit he, List.length_cons]
      obtain ⟨hb, hstep⟩ := List.forall_mem_cons.mp hstep
      rcases ih hstep (hb s hI he) with ⟨t, ht, h1, h2, h3⟩ | ⟨t, ht, h1, h2, h3⟩
      · exact .inl ⟨t, ht, h1, h2, by rw [hc] at h3; omega⟩
      · exact .inr ⟨t, ht, h1, h2, by rw [hc] at h3; omega⟩

/-- Termination: `I` an invariant, `μ` a measure that every element of the stream lowers and with `μ = 0 ⇒ exit`; a stream
at least `μ s` long ends the loop, after at most `μ s` further iterations of the counter `c`. -/
theorem run_done (I : σ → Prop) (μ c : σ → Nat) (hc : ∀ s b, c (step s b) = c s + 1) {bs : List β} {s : σ}
    (hstep : ∀ b ∈ bs, ∀ s, I s → ¬ exit s → I (step s b) ∧ μ (step s b) < μ s)
    (h0 : ∀ s, I s → μ s = 0 → exit s) (hI : I s) (hμ : μ s ≤ bs.length) :
    ∃ t, run exit step bs s = .done t ∧ I t ∧ exit t ∧ c t ≤ c s + μ s := by
  -- `c + μ` never grows, so a loop that consumed the whole stream has `μ = 0`
  rcases run_inv (fun t => I t ∧ c t + μ t ≤ c s + μ s) c hc
      (fun b hb t h he => by
        obtain ⟨hI', hlt⟩ := hstep b hb t h.1 he
        have := h.2
        refine ⟨hI', ?_⟩
        rw [hc]
        omega)
      ⟨hI, Nat.le_refl _⟩ with ⟨t, ht, h, he, _⟩ | ⟨t, _, h, he, h3⟩
  · exact ⟨t, ht, h.1, he, by have := h.2; omega⟩
  · exact absurd (h0 t h.1 (by have := h.2; omega)) he

/-- Non-termination: if the invariant `I` excludes `exit`, the loop consumes the whole stream, and the counter `c` has
grown by its length. -/
theorem run_spin (I : σ → Prop) (c : σ → Nat) (hc : ∀ s b, c (step s b) = c s + 1) {bs : List β} {s : σ}
    (hstep : ∀ b ∈ bs, ∀ s, I s → I (step s b)) (hne : ∀ s, I s → ¬ exit s) (hI : I s) :
    ∃ t, run exit step bs s = .spin t ∧ I t ∧ c t = c s + bs.length := by
  rcases run_inv (exit := exit) I c hc (fun b hb s h _ => hstep b hb s h) hI with
    ⟨t, _, h1, he, _⟩ | ⟨t, ht, h1, _, h3⟩
  · exact absurd he (hne t h1)
  · exact ⟨t, ht, h1, h3⟩

/-- Exact criterion: a predicate `P s bs` of state and remaining stream that unfolds as the loop does (`exit` on the empty
stream; `exit` or `P` after one step otherwise) says exactly when the loop ends within the stream. -/
theorem run_isDone_iff (P : σ → List β → Prop) (hnil : ∀ s, P s [] ↔ exit s)
    (hcons : ∀ s b bs, P s (b :: bs) ↔ exit s ∨ P (step s b) bs) (bs : List β) (s : σ) :
    (run exit step bs s).isDone = true ↔ P s bs := by
  induction bs generalizing s with
  | nil => by_cases he : exit s <;> simp [run, he, hnil, Outcome.isDone]
  | cons b bs ih =>
    by_cases he : exit s
    · simp [run_of_exit he, hcons, he, Outcome.isDone]
    · rw [run_cons_of_not_exit he, ih, hcons]; simp [he]

end run

theorem max2_eq (a b : EF) : EF.max2 a b = a ∨ EF.max2 a b = b := by
  unfold EF.max2
  split
  · left; rfl
  · right; rfl
  · split <;> simp

theorem foldl_max2_mem (xs : List EF) (x : EF) : xs.foldl EF.max2 x ∈ x :: xs := by
  induction xs generalizing x with
  | nil => simp
  | cons y ys ih =>
    rw [List.foldl_cons]
    rcases List.mem_cons.mp (ih (EF.max2 x y)) with h | h
    · rw [h]; rcases max2_eq x y with h' | h' <;> simp [h']
    · simp [h]

theorem maxNp_mem {xs : List EF} (h : xs ≠ []) : EF.maxNp xs ∈ xs := by
  cases xs with
  | nil => exact absurd rfl h
  | cons x r => exact foldl_max2_mem r x

theorem max2_eq_ninf {x y : EF} : EF.max2 x y = .ninf ↔ x = .ninf ∧ y = .ninf := by
  cases x <;> cases y <;> simp [EF.max2, EF.gt]
  -- left: `fin`/`fin`, where `max2` is an `if`
  split <;> simp

theorem foldl_max2_eq_ninf {xs : List EF} {x : EF} :
    xs.foldl EF.max2 x = .ninf ↔ x = .ninf ∧ ∀ y ∈ xs, y = .ninf := by
  induction xs generalizing x with
  | nil => simp
  | cons y ys ih => simp [ih, max2_eq_ninf, and_assoc]

theorem maxNp_eq_ninf {xs : List EF} (h : EF.maxNp xs = .ninf) : ∀ y ∈ xs, y = .ninf := by
  cases xs with
  | nil => simp
  | cons x r => simpa [EF.maxNp] using foldl_max2_eq_ninf.mp h

theorem isFinite_iff {x : EF} : x.isFinite = true ↔ ∃ c, x = .fin c := by
  cases x <;> simp [EF.isFinite]

/-- the point attaining a finite maximum is always accepted: `0 > log(u)` for every `u` in [0, 1) -/
theorem acc_at_max (c : Int) (u : LU) : accLU (EF.sub (.fin c) (.fin c)) u = true := by
  cases u <;> simp [EF.sub, accLU]

theorem acceptIds_pos (c : Int) (u : Nat → LU) (l : List Item) (j : Nat)
    (h : ∃ it ∈ l, it.logw = .fin c) : 1 ≤ (acceptIds (.fin c) u l j).length := by
  induction l generalizing j with
  | nil => simp at h
  | cons a r ih =>
    unfold acceptIds
    obtain ⟨it, hit, hw⟩ := h
    rcases List.mem_cons.mp hit with rfl | hr
    · rw [hw, acc_at_max]; simp
    · split
      · simp
      · exact ih (j + 1) ⟨it, hr, hw⟩

theorem acceptIds_eq_nil {c : EF} {u : Nat → LU} {l : List Item} {j : Nat}
    (h : ∀ it ∈ l, ∀ v, accLU (EF.sub it.logw c) v = false) : acceptIds c u l j = [] := by
  induction l generalizing j with
  | nil => rfl
  | cons a r ih => simp_all [acceptIds]

theorem accLU_sub_nan (x : EF) (v : LU) : accLU (EF.sub x .nan) v = false := by cases x <;> rfl

theorem accLU_sub_pinf (x : EF) (v : LU) : accLU (EF.sub x .pinf) v = false := by cases x <;> rfl

/-- the progress hypothesis: the batch is not empty after the truncation and the maximum of its
log-weights is a finite number -/
def Good (m : Option EF) (b : Batch) : Prop :=
  b.items.filter (keep m) ≠ [] ∧ ∃ c, EF.maxNp ((b.items.filter (keep m)).map (·.logw)) = .fin c

/-- some of the batches the progress hypothesis excludes: nothing survives the truncation, or every surviving
log-weight is NaN, or every surviving log-weight is −∞ -/
def Stuck (m : Option EF) (b : Batch) : Prop :=
  (∀ it ∈ b.items.filter (keep m), it.logw = .nan) ∨ (∀ it ∈ b.items.filter (keep m), it.logw = .ninf)

/-- Boolean form of `Good` (decidable on concrete streams) -/
def isGood (m : Option EF) (b : Batch) : Bool :=
  !(b.items.filter (keep m)).isEmpty && (EF.maxNp ((b.items.filter (keep m)).map (·.logw))).isFinite

/-- The first conjunct of `Good` follows from the second (`maxNp [] = ninf`); it is there because `stdStep` and `batchAcc`
test emptiness before they take the maximum. -/
theorem isGood_iff {m : Option EF} {b : Batch} : isGood m b = true ↔ Good m b := by
  simp [isGood, Good, isFinite_iff]

theorem Good.exists_max {m : Option EF} {b : Batch} (hg : Good m b) :
    ∃ c, EF.maxNp ((b.items.filter (keep m)).map (·.logw)) = .fin c ∧
      ∃ it ∈ b.items.filter (keep m), it.logw = .fin c := by
  obtain ⟨hne, c, hc⟩ := hg
  have := maxNp_mem (xs := (b.items.filter (keep m)).map (·.logw)) (by simpa using hne)
  rw [hc] at this
  exact ⟨c, hc, by simpa using this⟩

theorem isGood_of_stuck {m : Option EF} {b : Batch} (hs : Stuck m b) : isGood m b = false := by
  apply Bool.eq_false_iff.mpr
  intro hg
  obtain ⟨c, _, it, hit, hw⟩ := (isGood_iff.mp hg).exists_max
  rcases hs with h | h <;> simp [h it hit] at hw

/-- number of points the loop body accepts from batch `b` when it is the `calls`-th non-empty batch -/
def batchAcc (m : Option EF) (u : Nat → Nat → LU) (calls : Nat) (b : Batch) : Nat :=
  if (b.items.filter (keep m)).isEmpty then 0
  else (acceptIds (EF.maxNp ((b.items.filter (keep m)).map (·.logw))) (u calls) (b.items.filter (keep m)) 0).length

/-- does batch `b` consume a call of `np.random.rand` (it does unless it is empty after truncation) -/
def batchCalls (m : Option EF) (b : Batch) : Nat := if (b.items.filter (keep m)).isEmpty then 0 else 1

/-- total number of points a stream would accept, the `calls`-th `rand` call being the next one -/
def stdAccepted (m : Option EF) (u : Nat → Nat → LU) : List Batch → Nat → Nat
  | [], _ => 0
  | b :: bs, calls => batchAcc m u calls b + stdAccepted m u bs (calls + batchCalls m b)

theorem batchAcc_pos {m : Option EF} (u : Nat → Nat → LU) (calls : Nat) {b : Batch} (hg : isGood m b = true) :
    1 ≤ batchAcc m u calls b := by
  have hg := isGood_iff.mp hg
  obtain ⟨c, hc, h⟩ := hg.exists_max
  simpa [batchAcc, hg.1, hc] using acceptIds_pos c (u calls) _ 0 h

theorem batchAcc_zero {m : Option EF} (u : Nat → Nat → LU) (calls : Nat) {b : Batch} (hg : isGood m b = false) :
    batchAcc m u calls b = 0 := by
  unfold batchAcc
  split
  · rfl
  · rename_i hne
    refine List.length_eq_zero_iff.mpr (acceptIds_eq_nil fun it hit v => ?_)
    cases hm : EF.maxNp ((b.items.filter (keep m)).map (·.logw)) with
    | fin c => simp [isGood, hne, hm, EF.isFinite] at hg
    | nan => exact accLU_sub_nan ..
    | pinf => exact accLU_sub_pinf ..
    | ninf =>
      -- every weight is −∞, and `-inf - -inf` is NaN
      rw [maxNp_eq_ninf hm _ (List.mem_map_of_mem hit)]
      rfl

theorem stdStep_used (N : Nat) (m : Option EF) (u : Nat → Nat → LU) (st : StdState) (b : Batch) :
    (stdStep N m u st b).used = st.used + 1 := by
  unfold stdStep; simp only []; split <;> rfl

theorem stdStep_nAcc_eq (N : Nat) (m : Option EF) (u : Nat → Nat → LU) (st : StdState) (b : Batch) :
    (stdStep N m u st b).nAcc = st.nAcc + batchAcc m u st.calls b := by
  unfold stdStep batchAcc; simp only []; split <;> simp

theorem stdStep_calls_eq (N : Nat) (m : Option EF) (u : Nat → Nat → LU) (st : StdState) (b : Batch) :
    (stdStep N m u st b).calls = st.calls + batchCalls m b := by
  unfold stdStep batchCalls; simp only []; split <;> simp

theorem stdStep_nAcc_ge (N : Nat) (m : Option EF) (u : Nat → Nat → LU) (st : StdState) (b : Batch) :
    st.nAcc ≤ (stdStep N m u st b).nAcc := by
  rw [stdStep_nAcc_eq]; exact Nat.le_add_right ..

theorem add_min_sub {a N k : Nat} (h : a ≤ N) : a + min (N - a) k = min (a + k) N := by
  rw [← Nat.add_min_add_left, Nat.add_sub_cancel' h, Nat.min_comm]

theorem stdStep_len {N : Nat} {m : Option EF} {u : Nat → Nat → LU} {st : StdState} {b : Batch}
    (hlt : st.nAcc < N) (hinv : st.xs.length = min st.nAcc N) :
    (stdStep N m u st b).xs.length = min (stdStep N m u st b).nAcc N := by
  unfold stdStep
  simp only []
  split
  · exact hinv
  · rw [Nat.min_eq_left (Nat.le_of_lt hlt)] at hinv
    simp only [List.length_append, List.length_take, hinv, Nat.min_assoc, Nat.min_self]
    exact add_min_sub (Nat.le_of_lt hlt)

theorem populateStd_eq_run (N : Nat) (m : Option EF) (u : Nat → Nat → LU) (bs : List Batch) (st : StdState) :
    populateStd N m u bs st = run (N ≤ ·.nAcc) (stdStep N m u) bs st := by
  induction bs generalizing st <;> simp [populateStd, run, *]

theorem populateStd_spin_of_not_good (N : Nat) (m : Option EF) (u : Nat → Nat → LU) (bs : List Batch)
    (st : StdState) (hs : ∀ b ∈ bs, isGood m b = false) (hN : st.nAcc < N) :
    ∃ s, populateStd N m u bs st = .spin s ∧ s.nAcc = st.nAcc ∧ s.used = st.used + bs.length := by
  rw [populateStd_eq_run]
  exact run_spin (step := stdStep N m u) (·.nAcc = st.nAcc) (·.used) (stdStep_used N m u)
    (fun b hb s h => by rw [stdStep_nAcc_eq, batchAcc_zero u s.calls (hs b hb)]; exact h)
    (fun s h => Nat.not_le.mpr (h ▸ hN)) rfl

theorem populateStd_spin (N : Nat) (m : Option EF) (u : Nat → Nat → LU) (bs : List Batch) (st : StdState)
    (hs : ∀ b ∈ bs, Stuck m b) (hN : st.nAcc < N) :
    ∃ s, populateStd N m u bs st = .spin s ∧ s.nAcc = st.nAcc ∧ s.used = st.used + bs.length :=
  populateStd_spin_of_not_good N m u bs st (fun b hb => isGood_of_stuck (hs b hb)) hN

theorem countGood_le_stdAccepted (m : Option EF) (u : Nat → Nat → LU) (bs : List Batch) (calls : Nat) :
    bs.countP (isGood m) ≤ stdAccepted m u bs calls := by
  induction bs generalizing calls with
  | nil => simp [stdAccepted]
  | cons b bs ih =>
    have := ih (calls + batchCalls m b)
    rw [stdAccepted, List.countP_cons]
    cases hg : isGood m b with
    | true => have := batchAcc_pos u calls hg; simp only [if_true]; omega
    | false => simp only [Bool.false_eq_true, if_false]; omega

theorem stdAccepted_zero (m : Option EF) (u : Nat → Nat → LU) (bs : List Batch) (calls : Nat)
    (h : ∀ b ∈ bs, isGood m b = false) : stdAccepted m u bs calls = 0 := by
  induction bs generalizing calls with
  | nil => rfl
  | cons b bs ih =>
    obtain ⟨hb, h⟩ := List.forall_mem_cons.mp h
    rw [stdAccepted, batchAcc_zero u calls hb, ih _ h]

/-- hypothesis of the bound: every batch proposes at least one point and at least one survives the truncation -/
def NonEmpty (m : Option EF) (b : Batch) : Prop := b.items.filter (keep m) ≠ [] ∧ 1 ≤ b.drawn

instance (m : Option EF) (b : Batch) : Decidable (NonEmpty m b) := by unfold NonEmpty; exact inferInstance

theorem accStep_used (N : Nat) (m : Option EF) (maxS : Nat) (u : Nat → Nat → LU) (st : AccState) (b : Batch) :
    (accStep N m maxS u st b).1.used = st.used + 1 := by
  unfold accStep; simp only []; split
  · rfl
  · split <;> rfl

theorem accStep_nProp (N : Nat) (m : Option EF) (maxS : Nat) (u : Nat → Nat → LU) (st : AccState) (b : Batch) :
    (accStep N m maxS u st b).1.nProp = st.nProp + b.drawn := by
  unfold accStep; simp only []; split
  · rfl
  · split <;> rfl

theorem accStep_break (N : Nat) (m : Option EF) (maxS : Nat) (u : Nat → Nat → LU) (st : AccState) (b : Batch)
    (h : NonEmpty m b) : (accStep N m maxS u st b).2 = decide (maxS < st.nProp + b.drawn) := by
  have hemp : (b.items.filter (keep m)).isEmpty = false := by simpa using h.1
  unfold accStep
  simp only [hemp, Bool.false_eq_true, if_false]
  split <;> rfl

theorem accStep_empty (N : Nat) (m : Option EF) (maxS : Nat) (u : Nat → Nat → LU) (st : AccState) (b : Batch)
    (h : b.items.filter (keep m) = []) :
    accStep N m maxS u st b = ({ st with nProp := st.nProp + b.drawn, used := st.used + 1 }, false) := by
  unfold accStep; simp [h]

theorem accFinish_used (N : Nat) (u : Nat → Nat → LU) (st : AccState) : (accFinish N u st).used = st.used := rfl

theorem accFinish_len (N : Nat) (u : Nat → Nat → LU) (st : AccState) : (accFinish N u st).xs.length ≤ N := by
  unfold accFinish; simp only [List.length_take]; omega

/-- the `max_samples` guard ends the loop: `nProp` grows with every batch and the pass that takes it beyond
`maxS` breaks. (`populateAcc` is not an instance of `run`: its body can `break`, and every exit goes through `accFinish`;
hence the inductions of its own here and in `populateAcc_spin`.) -/
theorem populateAcc_done (N : Nat) (m : Option EF) (maxS : Nat) (u : Nat → Nat → LU) (bs : List Batch) (st : AccState)
    (hg : ∀ b ∈ bs, NonEmpty m b) (hlen : maxS + 1 ≤ st.nProp + bs.length) (hinv : st.nProp ≤ maxS) :
    ∃ r, populateAcc N m maxS u bs st = .done r ∧ r.used + st.nProp ≤ st.used + maxS + 1 ∧ r.xs.length ≤ N := by
  fun_induction populateAcc N m maxS u bs st with
  -- `N ≤ nAcc`: the loop has ended
  | case1 st h | case3 b bs st h => exact ⟨_, rfl, by rw [accFinish_used]; omega, accFinish_len ..⟩
  -- stream used up: excluded by `hlen`
  | case2 st h => simp at hlen; omega
  -- the pass breaks
  | case4 b bs st h st' hst =>
    have hu := accStep_used N m maxS u st b
    rw [hst] at hu
    exact ⟨_, rfl, by rw [accFinish_used, hu]; omega, accFinish_len ..⟩
  -- no `break`: `nProp` has grown and is still `≤ maxS`
  | case5 b bs st h st' hst ih =>
    obtain ⟨hb, hg⟩ := List.forall_mem_cons.mp hg
    have hbrk := accStep_break N m maxS u st b hb
    have hu := accStep_used N m maxS u st b
    have hp := accStep_nProp N m maxS u st b
    simp only [hst, Bool.false_eq, decide_eq_false_iff_not] at hbrk hu hp
    have := hb.2
    obtain ⟨r, hr, h1, h2⟩ := ih hg (by rw [List.length_cons] at hlen; omega) (by omega)
    exact ⟨r, hr, by omega, h2⟩

theorem populateAcc_spin (N : Nat) (m : Option EF) (maxS : Nat) (u : Nat → Nat → LU) (bs : List Batch) (st : AccState)
    (he : ∀ b ∈ bs, b.items.filter (keep m) = []) (hN : st.nAcc < N) :
    ∃ r, populateAcc N m maxS u bs st = .spin r ∧ r.used = st.used + bs.length := by
  induction bs generalizing st with
  | nil => exact ⟨accFinish N u st, by simp [populateAcc, Nat.not_le.mpr hN], by simp [accFinish_used]⟩
  | cons b bs ih =>
    obtain ⟨hb, he⟩ := List.forall_mem_cons.mp he
    obtain ⟨r, hr, hu⟩ := ih { st with nProp := st.nProp + b.drawn, used := st.used + 1 } he hN
    exact ⟨r, by simp [populateAcc, Nat.not_le.mpr hN, accStep_empty N m maxS u st b hb, hr],
      by simp only [hu, List.length_cons]; omega⟩

def HasOk (b : List (Nat × PK)) : Prop := ∃ p ∈ b, p.2 = PK.ok
def NoOk (b : List (Nat × PK)) : Prop := ∀ p ∈ b, p.2 ≠ PK.ok

instance (b : List (Nat × PK)) : Decidable (HasOk b) := by unfold HasOk; exact inferInstance
instance (b : List (Nat × PK)) : Decidable (NoOk b) := by unfold NoOk; exact inferInstance

/-- number of points of a batch that pass both masks -/
def okCount (b : List (Nat × PK)) : Nat := b.countP (fun p => p.2 == PK.ok)
/-- …and of a whole stream -/
def okTotal : List (List (Nat × PK)) → Nat
  | [] => 0
  | b :: bs => okCount b + okTotal bs

theorem okCount_pos {b : List (Nat × PK)} (h : HasOk b) : 0 < okCount b := by
  obtain ⟨p, hp, hk⟩ := h
  exact List.countP_pos_iff.mpr ⟨p, hp, by simp [hk]⟩

theorem okCount_eq_zero {b : List (Nat × PK)} (h : NoOk b) : okCount b = 0 :=
  List.countP_eq_zero.mpr fun p hp => by simpa using h p hp

theorem insStep_used (st : InsState) (b : List (Nat × PK)) : (insStep st b).used = st.used + 1 := by
  unfold insStep; simp only []; split
  · rfl
  · split <;> rfl

theorem insStep_len {st : InsState} {b : List (Nat × PK)} (h : st.xs.length = st.nAcc) :
    (insStep st b).xs.length = (insStep st b).nAcc := by
  unfold insStep; simp only []; split
  · exact h
  · split
    · exact h
    · simp [h]

theorem insStep_nAcc_eq (st : InsState) (b : List (Nat × PK)) : (insStep st b).nAcc = st.nAcc + okCount b := by
  have hlen : okCount b = ((b.filter (·.2 != PK.rej1)).filter (·.2 == PK.ok)).length := by
    rw [okCount, List.filter_filter, List.countP_eq_length_filter]
    congr 1; apply List.filter_congr; intro p _; cases p.2 <;> rfl
  -- where a mask is empty `nAcc` stays, and there is nothing to count
  rw [hlen]
  unfold insStep
  simp only []
  split
  · next h => simp [List.isEmpty_iff.mp h]
  · split
    · next h => simp [List.isEmpty_iff.mp h]
    · rfl

theorem insNDraw_eq_zero {n : Nat} : insNDraw n = 0 ↔ n = 0 := by
  unfold insNDraw; omega

/-- the second test of `while n_accepted < n and n_draw > 0` never decides: `n_draw = 0` only for `n = 0`, and then
the first test fails already -/
theorem insLoop_eq_run (n : Nat) (bs : List (List (Nat × PK))) (st : InsState) :
    insLoop n bs st = run (n ≤ ·.nAcc) insStep bs st := by
  have h (k : Nat) : n ≤ k ∨ insNDraw n = 0 ↔ n ≤ k := by rw [insNDraw_eq_zero]; omega
  induction bs generalizing st <;> simp [insLoop, run, *]

theorem insDraw_isDone_iff (n : Nat) (bs : List (List (Nat × PK))) :
    (insDraw n bs).isDone = true ↔ n ≤ okTotal bs := by
  have he : (insDraw n bs).isDone = (insLoop n bs {}).isDone := by
    unfold insDraw; cases insLoop n bs {} <;> rfl
  rw [he, insLoop_eq_run]
  simpa using run_isDone_iff (exit := (n ≤ ·.nAcc)) (step := insStep)
    (fun s bs => n ≤ s.nAcc + okTotal bs) (fun s => by simp [okTotal])
    (fun s b bs => by simp only [okTotal, insStep_nAcc_eq]; omega) bs {}

theorem cbsLoop_no_fuel {len : Nat} {mb : Int} {fuel : Nat} {b : Int} (h1 : 1 ≤ fuel) (hb : b ≤ fuel) :
    cbsLoop len mb fuel b ≠ .error .fuel := by
  fun_induction cbsLoop len mb fuel b with
  -- out of fuel: excluded by `h1`
  | case1 => omega
  -- no exit taken: next iteration
  | case6 fuel b b' _ f _ _ _ ih => exact ih (by omega) (by omega)
  -- the two errors and the two returns
  | _ => simp

theorem cbsLoop_post {len : Nat} {mb : Int} {fuel : Nat} {b r : Int} (h : cbsLoop len mb fuel b = .ok r) :
    2 ≤ r ∧ r < b ∧ (Int.fmod len r = 0 ∨ mb ≤ Int.fmod len r ∨ (r ≤ mb ∧ 1 < Int.fmod len r)) := by
  fun_induction cbsLoop len mb fuel b with
  -- out of fuel, `ZeroDivisionError`, `RuntimeError`
  | case1 | case2 | case3 => cases h
  -- first return: remainder zero or at least `mb`
  | case4 fuel b b' _ f h2 hc =>
    obtain rfl : b' = r := Except.ok.inj h
    exact ⟨by omega, by omega, by omega⟩
  -- second return: `b' ≤ mb`, remainder above one
  | case5 fuel b b' _ f h2 _ hc =>
    obtain rfl : b' = r := Except.ok.inj h
    exact ⟨by omega, by omega, .inr (.inr hc)⟩
  -- no exit taken: next iteration
  | case6 fuel b b' _ f _ _ _ ih => exact ⟨(ih h).1, by have := (ih h).2.1; omega, (ih h).2.2⟩

theorem halveLoop_no_fuel {mx : Int} {fuel b : Nat} (h : b < fuel) : halveLoop mx fuel b ≠ some none := by
  fun_induction halveLoop mx fuel b with
  -- out of fuel: excluded by `h`
  | case1 => omega
  -- halved: next iteration
  | case3 fuel b _ _ ih => exact ih (by omega)
  -- `RuntimeError`, or the loop has ended
  | _ => simp

theorem halveLoop_post {mx : Int} {fuel b r : Nat} (h : halveLoop mx fuel b = some (some r)) :
    (r : Int) ≤ mx ∧ r ≤ b := by
  fun_induction halveLoop mx fuel b with
  -- out of fuel, `RuntimeError`
  | case1 | case2 => cases h
  -- halved: next iteration
  | case3 fuel b _ _ ih => exact ⟨(ih h).1, Nat.le_trans (ih h).2 (Nat.div_le_self b 2)⟩
  -- `b ≤ mx`: the loop has ended
  | case4 fuel b hc => cases h; exact ⟨by omega, Nat.le_refl _⟩

theorem halveLoop_err {mx : Int} {fuel b : Nat} (h : halveLoop mx fuel b = none) : mx < 1 := by
  fun_induction halveLoop mx fuel b with
  -- out of fuel, or the loop has ended
  | case1 | case4 => cases h
  -- `RuntimeError`: `mx < b ≤ 1`
  | case2 fuel b _ _ => omega
  -- halved: next iteration
  | case3 fuel b _ _ ih => exact ih h

theorem finalExit_maxIts {cfg : FinalCfg} {st : FinalState} (h : cfg.maxIts ≤ (st.it : Int)) :
    finalExit cfg st ≠ none := by
  unfold finalExit
  -- the split is on the `ess` test; in its negative branch `split` settles the `max_its` test by `h`
  split <;> simp

theorem finalExit_ne_fuel {cfg : FinalCfg} {st : FinalState} {e : FinalExit} (h : finalExit cfg st = some e) :
    e ≠ .fuel := by
  rintro rfl
  revert h
  fun_cases finalExit cfg st <;> simp

theorem finalLoop_bounded (cfg : FinalCfg) (s : List (Nat × Nat)) (st : FinalState)
    (hlen : (cfg.maxIts - st.it).toNat ≤ s.length) :
    (finalLoop cfg s st).1 ≠ .fuel ∧ ((finalLoop cfg s st).2.it : Int) ≤ max cfg.maxIts st.it := by
  fun_induction finalLoop cfg s st with
  -- an exit test fires
  | case1 st e he | case3 k e2 r st e he => exact ⟨finalExit_ne_fuel he, by simp only []; omega⟩
  -- stream used up with no exit: excluded, `max_its` is reached by then
  | case2 st he => exact absurd he (finalExit_maxIts (by simp at hlen; omega))
  -- no exit: one more redraw
  | case4 k e2 r st he ih =>
    have hlt : (st.it : Int) < cfg.maxIts := Int.not_le.mp fun hc => finalExit_maxIts hc he
    have := ih (by simp only [List.length_cons] at hlen; simp only []; omega)
    exact ⟨this.1, by have := this.2; simp only [] at this; omega⟩

/-- the body of `nsLive`: one draw, stored as the next live point when `candStored` -/
def nsStep (st : LiveState) (c : Cand) : LiveState :=
  if candStored c then { i := st.i + 1, ids := st.ids ++ [c.id], draws := st.draws + 1 }
  else { st with draws := st.draws + 1 }

theorem nsLive_eq_run (nlive : Nat) (cs : List Cand) (st : LiveState) :
    nsLive nlive cs st = run (nlive ≤ ·.i) nsStep cs st := by
  induction cs generalizing st <;> simp [nsLive, run, nsStep, *]

theorem nsStep_i (st : LiveState) (c : Cand) : (nsStep st c).i = st.i + if candStored c then 1 else 0 := by
  unfold nsStep; split <;> rfl

theorem nsStep_draws (st : LiveState) (c : Cand) : (nsStep st c).draws = st.draws + 1 := by
  unfold nsStep; split <;> rfl

theorem nsStep_ids {st : LiveState} {c : Cand} (h : st.ids.length = st.i) :
    (nsStep st c).ids.length = (nsStep st c).i := by
  unfold nsStep; split <;> simp [h]

def HasFinite (b : List (Nat × Bool)) : Prop := ∃ p ∈ b, p.2 = true

instance (b : List (Nat × Bool)) : Decidable (HasFinite b) := by unfold HasFinite; exact inferInstance

/-- number of finite-prior points of a stream of prior batches -/
def finiteTotal : List (List (Nat × Bool)) → Nat
  | [] => 0
  | b :: bs => (b.filter (·.2)).length + finiteTotal bs

/-- the body of `insLive`: the finite-prior points of the batch, cut at what is still missing -/
def insLiveStep (target : Nat) (st : InsLiveState) (b : List (Nat × Bool)) : InsLiveState :=
  let acc := (b.filter (·.2)).map (·.1)
  let m := min acc.length (target - st.n)
  { n := st.n + m, ids := st.ids ++ acc.take m, used := st.used + 1 }

theorem insLive_eq_run (target : Nat) (bs : List (List (Nat × Bool))) (st : InsLiveState) :
    insLive target bs st = run (target ≤ ·.n) (insLiveStep target) bs st := by
  induction bs generalizing st <;> simp [insLive, run, insLiveStep, *]

theorem insLiveStep_n (target : Nat) (st : InsLiveState) (b : List (Nat × Bool)) :
    (insLiveStep target st b).n = st.n + min (b.filter (·.2)).length (target - st.n) := by
  simp [insLiveStep]

theorem insLiveStep_ids {target : Nat} {st : InsLiveState} {b : List (Nat × Bool)} (h : st.ids.length = st.n) :
    (insLiveStep target st b).ids.length = (insLiveStep target st b).n := by
  simp [insLiveStep, h]

/-- `attrViolations` with the row taken apart by `match`: evaluated in this form, the kernel meets `attrDefined d "Cls" "attr"`
with literal arguments, one term for all rows that read the same attribute of the same class, so that repeated reads are
answered from its cache. -/
theorem attrViolations_eq_match (d : List (String × List String)) (t : List AttrRead) :
    attrViolations d t =
      (t.filter fun | ⟨_, c, a⟩ => !attrDefined d c a).map fun r => (r.caller, r.cls, r.attr) := rfl

/-- lets `decide` establish `e = .ok a` on a concrete `e` through `e.toOption`: `Except` has no `DecidableEq` -/
theorem ok_of_toOption {ε α : Type} {e : Except ε α} {a : α} (h : e.toOption = some a) : e = .ok a := by
  cases e with
  | error => cases h
  | ok => cases h; rfl

end NessaiVerif.Term
