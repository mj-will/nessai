import NessaiVerif.Gen.CrashFS
import NessaiVerif.Proofs.CrashFSHist
/-
C11 — the protocols GENERATED from the nessai source (`Gen/CrashFS.lean`) meet the
specifications the history theorems need.  These are the proof obligations that
break when `safe_file_dump`, `FlowModel.save_weights` or the `except` clauses of
`FlowSampler._resume_from_file` change in a way that matters.  After them, for the generated
weights reload, a second induction over histories (`hist_no_drift`): the weights path held in
memory and recorded by every checkpoint on disk is none or `model.pt`, never `model.pt.old`.
-/
namespace NessaiVerif.CrashFS
open Gen

theorem gen_dumpSpec : DumpSpec dumpProg :=
  dumpSpec_of_shape dumpProg fun | true => .inr rfl | false => .inl rfl

theorem gen_saveSpec : SaveSpec saveWeightsProg := saveSpec_rot_save

/-- the `except` clauses of `_resume_from_file` as they are in the source do what
`CkptGood` needs: a missing primary file falls through to `.old` -/
theorem gen_resumeSpec (h : WeightsHandler) : ResumeSpec (resumeCfgWith h) := by
  intro kind top fs prev hg hw
  match prev, hg.2.2 with
  | none, ⟨hb, ho⟩ => exact resume_fresh (by simp [resumeCfgWith, FS.has, hb, ho, Content.exists?])
  | some (v, n), .inl hb =>
    exact resume_first (by simp [resumeCfgWith, FS.has, hb, Content.exists?]) (attempt_loaded hb (hw cb v n (.inl rfl) hb))
  | some (v, n), .inr ⟨hb, ho⟩ =>
    exact resume_second (by simp [resumeCfgWith, FS.has, ho, Content.exists?]) (attempt_absent hb) rfl
      (attempt_loaded ho (hw co v n (.inr rfl) ho))

/-- `coversTorn` lists every exception there is -/
theorem catches_torn {l : List ExcName} (h : coversTorn l = true) (e : Exc) : catches l e = true := by
  simp only [coversTorn, List.all_cons, List.all_nil, Bool.and_true, Bool.and_eq_true] at h
  obtain ⟨h1, h2, h3, h4, h5, h6⟩ := h
  cases e <;> assumption

theorem Fallback.safe_ok {f : Fallback} (hf : f.safe = true) (c : Content) (e : Exc) : runFallback c e f = none := by
  cases f with
  | reraise => cases hf
  | skip => rfl
  | loadOld g c2 =>
    have hc := catches_torn (Bool.and_eq_true_iff.1 hf).2
    simp only [runFallback, hc, if_true]
    split
    · rfl
    · split <;> rfl

/-- a handler that passes `WeightsHandler.safe` never lets the weights reload raise -/
theorem safe_handler_ok (h : WeightsHandler) (hs : h.safe = true) (fs : FS) (n : Nat) :
    stdWeightsResume h fs n = none := by
  simp only [WeightsHandler.safe, Bool.and_eq_true] at hs
  obtain ⟨⟨⟨hskip, _⟩, hcov⟩, hfb⟩ := hs
  -- no weights recorded: skipped; otherwise whatever the load raises is caught and the fallback returns
  -- (`coversTorn` includes the missing file, so the second conjunct of `safe` is not needed)
  simp only [stdWeightsResume, hskip, Fallback.safe_ok hfb, catches_torn hcov, if_true, ite_self]
  split
  · -- `n = 0`: no weights recorded
    rfl
  · split
    · -- the `exists` guard finds no file
      rfl
    · -- the file is read: it loads, or the load raises
      split <;> rfl

/-- for a checkpoint that recorded `model.pt` (code 1) the generated handler brings back `model.pt`, else `model.pt.old`,
and records `model.pt` again; or nothing (code 0) -/
theorem gen_back_one (fs : FS) :
    stdWeightsBack weightsHandler fs 1 =
      match fs wb, fs wo with
      | .complete w _, _ => (w, 1)
      | _, .complete w _ => (w, 1)
      | _, _ => (0, 0) := by
  cases hb : fs ⟨.weights, .base⟩ <;> cases ho : fs ⟨.weights, .old⟩ <;>
    simp [stdWeightsBack, fallbackBack, fallbackContent, weightsHandler, primary, FS.has, hb, ho, Content.exists?]

/-- whatever comes back for a checkpoint that recorded no weights or `model.pt`, the path
recorded afterwards is again none or `model.pt` -/
theorem gen_back_le (fs : FS) (n : Nat) (hn : n ≤ 1) : (stdWeightsBack weightsHandler fs n).2 ≤ 1 := by
  rcases Nat.le_one_iff_eq_zero_or_eq_one.1 hn with rfl | rfl
  · exact Nat.zero_le _
  · rw [gen_back_one]
    split <;> simp

theorem resume_mem_le (top : Nat) (fs : FS) (h : PicklesLe fs 1) :
    memAfter (resume .std protocol.cfg top fs) ≤ 1 :=
  memAfter_resume_le (memAfter_attempt_le fun v n hv => gen_back_le fs n (h cb v n (.inl rfl) hv))
    (memAfter_attempt_le fun v n hv => gen_back_le fs n (h co v n (.inr rfl) hv))

theorem hist_no_drift (hist : List Ev) (s : Sys) (hm : s.mem ≤ 1) (hp : PicklesLe s.fs 1) :
    (hist.foldl (step .std protocol) s).mem ≤ 1 ∧ PicklesLe (hist.foldl (step .std protocol) s).fs 1 := by
  induction hist generalizing s with
  | nil => exact ⟨hm, hp⟩
  | cons e r ih =>
    have hp' : PicklesLe (step .std protocol s e).fs 1 := by
      cases e with
      | ckpt se v n len cp => rw [step_ckpt_fs]; exact (gen_dumpSpec.views se _ s.fs cp).picklesLe hp hm
      | train w len e cp => exact hp.congr step_train_ckpt (Nat.le_refl _)
    refine ih _ ?_ hp'
    rcases e with ⟨se, v, n, len, _ | cp⟩ | ⟨w, len, e, _ | cp⟩
    · -- checkpoint completed: `mem` unchanged
      exact hm
    · -- checkpoint killed: restart
      exact resume_mem_le _ _ hp'
    · -- training completed: mem = trainMem = 1
      exact Nat.le_refl 1
    · -- training killed: restart
      exact resume_mem_le _ _ hp'

end NessaiVerif.CrashFS
