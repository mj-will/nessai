import NessaiVerif.Model.Pool
import Mathlib.Algebra.Order.Field.Basic
/-
C09 — radially truncated latent draws without a square root: `radialScale p s` multiplies every coordinate by `p / s`, hence the
squared norm by `p² / s²` (`normSq_radialScale`), which is `p²` once `s² = ‖x‖²`.  Any field, so ℚ and ℝ.
-/
namespace NessaiVerif.Pool

section
variable {K : Type}

@[simp] theorem normSq_nil [Add K] [Mul K] [OfNat K 0] : normSq ([] : List K) = 0 := rfl
@[simp] theorem normSq_cons [Add K] [Mul K] [OfNat K 0] (x : K) (xs : List K) :
    normSq (x :: xs) = x * x + normSq xs := rfl

theorem normSq_map_mul [CommSemiring K] (c : K) (xs : List K) : normSq (xs.map (c * ·)) = c * c * normSq xs := by
  induction xs with
  | nil => exact (mul_zero _).symm
  | cons x xs ih => rw [List.map_cons, normSq_cons, normSq_cons, ih, mul_add, mul_mul_mul_comm]

theorem normSq_radialScale [Field K] (p s : K) (xs : List K) :
    normSq (radialScale p s xs) = (p * p) / (s * s) * normSq xs := by
  rw [← div_mul_div_comm, ← normSq_map_mul]
  simp only [radialScale, mul_div_right_comm]

end

theorem normSq_nonneg {K : Type} [Field K] [LinearOrder K] [IsStrictOrderedRing K] (xs : List K) :
    0 ≤ normSq xs := by
  induction xs with
  | nil => exact le_rfl
  | cons x xs ih => exact add_nonneg (mul_self_nonneg x) ih

end NessaiVerif.Pool
