import NessaiVerif.Proofs.Flow
import Mathlib.Algebra.BigOperators.Fin
import Mathlib.Tactic.Ring
/-
C08 — the layers on `Fin n → K` over a field: the two cancellations behind every affine layer; the masked affine
autoregressive layer (MAF / MADE) is lawful in every dimension for arbitrary conditioners of the strict prefix, hence the
triangular maps and the LU layer; their forward maps are the products with the triangular matrices.
-/
namespace NessaiVerif.Flow
variable {L K : Type} [Field K] [AddCommGroup L] {n : Nat}

theorem affine_undo {s : K} (h : s ≠ 0) (x t : K) : (x * s + t - t) / s = x := by
  rw [add_sub_cancel_right, mul_div_cancel_right₀ _ h]

theorem affine_redo {s : K} (h : s ≠ 0) (y t : K) : (y - t) / s * s + t = y := by
  rw [div_mul_cancel₀ _ h, sub_add_cancel]

/-- the quadratic conditioner scale of the examples never vanishes -/
theorem mul_self_add_one_ne_zero (a : ℚ) : a * a + 1 ≠ 0 :=
  (add_pos_of_nonneg_of_pos (mul_self_nonneg a) one_pos).ne'

theorem maskOut_update (m : Fin n → Bool) (x F : Fin n → K) :
    maskOut m (fun i => if m i then F i else x i) = maskOut m x := by
  funext i
  simp only [maskOut]
  split <;> simp_all

omit [Field K] in
theorem permutation_lawful {σ σinv : Fin n → Fin n} (h1 : ∀ i, σ (σinv i) = i)
    (h2 : ∀ i, σinv (σ i) = i) : Lawful (permutation (K := K) (L := L) σ σinv) :=
  ⟨fun x => Prod.ext (funext fun i => congrArg x (h1 i)) neg_zero.symm,
   fun y => Prod.ext (funext fun i => congrArg y (h2 i)) neg_zero.symm⟩

section AR
variable {s t : Fin n → (Fin n → K) → K}

theorem arStep_congr (hs : PrefixDep s) (ht : PrefixDep t) (y : Fin n → K) {x x' : Fin n → K} {i : Fin n}
    (h : ∀ j : Fin n, j.val < i.val → x j = x' j) : arStep s t y x i = arStep s t y x' i := by
  unfold arStep
  rw [hs i x x' h, ht i x x' h]

/-- after `k` sweeps of the inverse loop the first `k` features no longer change, whatever the start `x0` -/
theorem arStep_stable (hs : PrefixDep s) (ht : PrefixDep t) (y x0 : Fin n → K) :
    ∀ k (j : Fin n), j.val < k → iterN (arStep s t y) (k + 1) x0 j = iterN (arStep s t y) k x0 j
  -- no case `k = 0`: `j.val < 0` has no constructor
  | k + 1, j, hj => arStep_congr hs ht y fun l hl => arStep_stable hs ht y x0 k l (by omega)

/-- after `k` sweeps the first `k` features are those of any fixed point `x` of the sweep -/
theorem arStep_agree (hs : PrefixDep s) (ht : PrefixDep t) {y x : Fin n → K} (hx : arStep s t y x = x)
    (x0 : Fin n → K) : ∀ k (j : Fin n), j.val < k → iterN (arStep s t y) k x0 j = x j
  | k + 1, j, hj =>
    (arStep_congr hs ht y fun l hl => arStep_agree hs ht hx x0 k l (by omega)).trans (congrFun hx j)

theorem autoregressive_lawful (lg : K → L) (s t : Fin n → (Fin n → K) → K)
    (hs : PrefixDep s) (ht : PrefixDep t) (hne : ∀ i x, s i x ≠ 0) : Lawful (autoregressive lg s t) := by
  constructor
  · intro x
    simp only [autoregressive]
    set y : Fin n → K := fun i => x i * s i x + t i x
    -- `x` is a fixed point of the sweep, so the state before the last sweep agrees with it on every strict prefix
    have hx : arStep s t y x = x := funext fun i => affine_undo (hne i x) _ _
    have hprev : ∀ (i l : Fin n), l.val < i.val → iterN (arStep s t y) (n - 1) (fun _ => 0) l = x l :=
      fun i l hl => arStep_agree hs ht hx _ (n - 1) l (by omega)
    refine Prod.ext (funext fun i => ?_) ?_
    · exact (arStep_congr hs ht y (hprev i)).trans (congrFun hx i)
    · simp only [hs _ _ _ (hprev _)]
  · intro y
    simp only [autoregressive, neg_neg]
    set prev := iterN (arStep s t y) (n - 1) (fun _ => 0)
    -- the last sweep leaves every strict prefix unchanged
    have hstab : ∀ (i l : Fin n), l.val < i.val → arStep s t y prev l = prev l :=
      fun i l hl => arStep_stable hs ht y _ (n - 1) l (by omega)
    refine Prod.ext (funext fun i => ?_) ?_
    · simp only [hs i _ _ (hstab i), ht i _ _ (hstab i)]
      exact affine_redo (hne i prev) _ _
    · simp only [hs _ _ _ (hstab _)]

end AR

theorem lowerRow_prefixDep (A : Fin n → Fin n → K) (b : Fin n → K) :
    PrefixDep (fun i (x : Fin n → K) => lowerRow A x i + b i) := by
  intro i x x' h
  simp only [lowerRow]
  congr 3
  funext j
  by_cases hj : j.val < i.val
  · simp [hj, h j hj]
  · simp [hj]

theorem triLower_lawful (lg : K → L) (d : Fin n → K) (A : Fin n → Fin n → K) (b : Fin n → K)
    (hd : ∀ i, d i ≠ 0) : Lawful (triLower lg d A b) :=
  autoregressive_lawful lg _ _ (fun _ _ _ _ => rfl) (lowerRow_prefixDep A b) (fun i _ => hd i)

theorem finRev_eq_rev : (finRev : Fin n → Fin n) = Fin.rev := by
  funext i
  apply Fin.ext
  simp only [finRev, Fin.val_rev]
  omega

theorem finRev_finRev (i : Fin n) : finRev (finRev i) = i := by
  rw [finRev_eq_rev, Fin.rev_rev]

theorem triUpper_lawful (lg : K → L) (d : Fin n → K) (A : Fin n → Fin n → K) (b : Fin n → K)
    (hd : ∀ i, d i ≠ 0) : Lawful (triUpper lg d A b) := by
  have hp : Lawful (permutation (K := K) (L := L) (finRev (n := n)) finRev) :=
    permutation_lawful finRev_finRev finRev_finRev
  exact hp.comp ((triLower_lawful lg _ _ _ fun i => hd _).comp hp)

theorem luLinear_lawful (lg : K → L) (Lo : Fin n → Fin n → K) (ud : Fin n → K) (Up : Fin n → Fin n → K)
    (b : Fin n → K) (hud : ∀ i, ud i ≠ 0) : Lawful (luLinear lg Lo ud Up b) := by
  unfold luLinear
  exact ((triUpper_lawful lg ud Up _ hud).comp (triLower_lawful lg _ Lo b fun _ => one_ne_zero)).constJ _

/-- the triangular matrix with diagonal `d` and strictly-lower part `A` -/
def lowerMat (d : Fin n → K) (A : Fin n → Fin n → K) (i j : Fin n) : K :=
  if j.val < i.val then A i j else if j = i then d i else 0

/-- the triangular matrix with diagonal `d` and strictly-upper part `A` -/
def upperMat (d : Fin n → K) (A : Fin n → Fin n → K) (i j : Fin n) : K :=
  if i.val < j.val then A i j else if j = i then d i else 0

theorem lowerMat_eq_add (d : Fin n → K) (A : Fin n → Fin n → K) (i j : Fin n) :
    lowerMat d A i j = (if j.val < i.val then A i j else 0) + (if j = i then d i else 0) := by
  unfold lowerMat
  split
  · rw [if_neg (fun h => by subst h; omega), add_zero]
  · rw [zero_add]

theorem triLower_fwd_eq (lg : K → L) (d : Fin n → K) (A : Fin n → Fin n → K) (b x : Fin n → K) (i : Fin n) :
    ((triLower lg d A b).fwd x).1 i = (∑ j, lowerMat d A i j * x j) + b i := by
  simp only [triLower, autoregressive, lowerRow, List.sum_ofFn, lowerMat_eq_add, add_mul, ite_mul, zero_mul,
    Finset.sum_add_distrib, Finset.sum_ite_eq', Finset.mem_univ, if_true]
  ring

theorem upperMat_rev (d : Fin n → K) (A : Fin n → Fin n → K) (i j : Fin n) :
    upperMat d A i j.rev = lowerMat (fun i => d i.rev) (fun i j => A i.rev j.rev) i.rev j := by
  unfold lowerMat upperMat
  simp only [Fin.rev_rev, Fin.val_rev, Fin.rev_eq_iff]
  congr 1
  exact propext ⟨fun h => by omega, fun h => by omega⟩

theorem triUpper_fwd_eq (lg : K → L) (d : Fin n → K) (A : Fin n → Fin n → K) (b x : Fin n → K) (i : Fin n) :
    ((triUpper lg d A b).fwd x).1 i = (∑ j, upperMat d A i j * x j) + b i := by
  simp only [triUpper, Transform.comp, permutation, finRev_eq_rev]
  rw [triLower_fwd_eq, Fin.rev_rev, ← Equiv.sum_comp Fin.revPerm fun j => upperMat d A i j * x j]
  simp only [Fin.revPerm_apply, upperMat_rev]

theorem luLinear_fwd_eq (lg : K → L) (Lo : Fin n → Fin n → K) (ud : Fin n → K) (Up : Fin n → Fin n → K)
    (b x : Fin n → K) (i : Fin n) :
    ((luLinear lg Lo ud Up b).fwd x).1 i
      = (∑ j, lowerMat (fun _ => 1) Lo i j * (∑ k, upperMat ud Up j k * x k)) + b i := by
  simp only [luLinear, Transform.comp]
  rw [triLower_fwd_eq]
  congr 2
  funext j
  rw [triUpper_fwd_eq, add_zero]

/-- the same map as one product with `W = lower @ upper`, the matrix glasflow caches in eval mode -/
theorem luLinear_fwd_eq_cached (lg : K → L) (Lo : Fin n → Fin n → K) (ud : Fin n → K) (Up : Fin n → Fin n → K)
    (b x : Fin n → K) (i : Fin n) :
    ((luLinear lg Lo ud Up b).fwd x).1 i
      = (∑ k, (∑ j, lowerMat (fun _ => 1) Lo i j * upperMat ud Up j k) * x k) + b i := by
  rw [luLinear_fwd_eq]
  congr 1
  simp only [Finset.mul_sum, Finset.sum_mul, mul_assoc]
  exact Finset.sum_comm

end NessaiVerif.Flow
