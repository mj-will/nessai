import NessaiVerif.Proofs.OrderedLists
/- The store invariant of `OrderedSamples`, and for each operation that returned: the invariant again and what the call did
to the samples a user sees. -/
namespace NessaiVerif.Ordered
open NessaiVerif.Np

theorem map_eq_ok {ε α β : Type} {f : α → β} {x : Except ε α} {y : β} (h : x.map f = .ok y) :
    ∃ a, x = .ok a ∧ f a = y := by
  cases x with
  | error e => cases h
  | ok a => exact ⟨a, rfl, Except.ok.inj h⟩

/-- The store holds the samples `smp`, in likelihood order, with one `log_q` row each; the live and the nested index
arrays are each strictly increasing and together hold every position of `smp` exactly once. -/
structure Inv (s : OS) (smp : List Smp) : Prop where
  hs : s.samples = some smp
  sorted : SortedS smp
  rowsLen : s.rows.length = smp.length
  liveInc : StrictInc (s.live.getD [])
  nestedInc : StrictInc s.nested
  part : ((s.live.getD []) ++ s.nested).Perm (List.range smp.length)

theorem Inv.nodup {s : OS} {smp : List Smp} (h : Inv s smp) : ((s.live.getD []) ++ s.nested).Nodup :=
  h.part.nodup_iff.mpr List.nodup_range

theorem Inv.bound {s : OS} {smp : List Smp} (h : Inv s smp) :
    ∀ i ∈ (s.live.getD []) ++ s.nested, i < smp.length := by
  intro i hi
  exact List.mem_range.mp (h.part.mem_iff.mp hi)

theorem liveSamples_eq (s : OS) (smp : List Smp) (hs : s.samples = some smp) :
    liveSamples s = (s.live.getD []).map (fun i => smp.getD i default) := by
  unfold liveSamples; rw [hs]; cases s.live <;> simp

theorem nestedSamples_eq (s : OS) (smp : List Smp) (hs : s.samples = some smp) :
    nestedSamples s = s.nested.map (fun i => smp.getD i default) := by
  unfold nestedSamples; rw [hs]

theorem inv_addInitial (s : OS) (b : List (Smp × Nat)) (hn : s.nested = []) :
    Inv (addInitial s b) ((sortBatch b).map (·.1)) := by
  unfold addInitial
  refine ⟨rfl, sortBatch_sorted b, by simp, ?_, ?_, ?_⟩
  · simp [StrictInc, List.pairwise_lt_range]
  · simp [hn, StrictInc]
  · simp [hn]

/-- `s'` is the state a strict `addSamples` returns when `n` samples are below the threshold -/
theorem strict_observe (s : OS) {smp' : List Smp} {rows' : List Nat} (n : Nat) (hs : SortedS smp')
    (hr : rows'.length = smp'.length) (hn : n ≤ smp'.length) :
    let s' : OS := { s with samples := some smp', rows := rows', nested := List.range n,
                            live := some (List.range' n (smp'.length - n)) }
    Inv s' smp' ∧ liveSamples s' = smp'.drop n ∧ nestedSamples s' = smp'.take n := by
  refine ⟨⟨rfl, hs, hr, ?_, ?_, ?_⟩, ?_, ?_⟩
  · simp [StrictInc, List.pairwise_lt_range']
  · simp [StrictInc, List.pairwise_lt_range]
  · show (List.range' n (smp'.length - n) ++ List.range n).Perm _
    have := List.range'_append_1 (s := 0) (m := n) (n := smp'.length - n)
    rw [Nat.zero_add, Nat.add_sub_cancel' hn, ← List.range_eq_range', ← List.range_eq_range'] at this
    exact List.perm_append_comm.trans (List.Perm.of_eq this)
  · show (List.range' n _).map _ = _
    rw [map_getD_range' _ _ _ _ (by omega), List.take_of_length_le (by simp)]
  · show (List.range n).map _ = _
    rw [List.range_eq_range', map_getD_range' _ _ _ _ (by omega), List.drop_zero]

/-- moving a prefix `l1` of the live indices to the discarded ones: what the user sees -/
theorem move_observe {s : OS} {smp : List Smp} (h : Inv s smp) (l1 l2 : List Nat)
    (hl : s.live.getD [] = l1 ++ l2) (live' : Option (List Nat)) (hl' : live'.getD [] = l2) :
    let s' : OS := { s with nested := addToNested s.nested l1, live := live' }
    Inv s' smp ∧
    liveSamples s' = l2.map (fun i => smp.getD i default) ∧
    (nestedSamples s').Perm (nestedSamples s ++ l1.map (fun i => smp.getD i default)) := by
  intro s'
  have hperm := addToNested_perm s.nested l1 h.nestedInc
  have hnd := hl ▸ h.nodup
  have hinc := List.pairwise_append.mp (hl ▸ h.liveInc)
  have hinv : Inv s' smp := by
    refine ⟨h.hs, h.sorted, h.rowsLen, hl' ▸ hinc.2.1, ?_, ?_⟩
    · have : (l1 ++ l2 ++ s.nested).Perm (s.nested ++ l1 ++ l2) :=
        List.perm_append_comm.trans (.of_eq (List.append_assoc _ _ _).symm)
      exact addToNested_strictInc _ _ h.nestedInc hinc.1 (List.nodup_append.mp (this.nodup_iff.mp hnd)).1
    · show (live'.getD [] ++ addToNested s.nested l1).Perm _
      rw [hl']
      refine ((hperm.append_left l2).trans ?_).trans (hl ▸ h.part)
      exact List.perm_append_comm.trans ((List.Perm.of_eq (List.append_assoc _ _ _)).trans List.perm_append_comm)
  refine ⟨hinv, ?_, ?_⟩
  · rw [liveSamples_eq s' smp hinv.hs]; show (live'.getD []).map _ = _; rw [hl']
  · rw [nestedSamples_eq s' smp hinv.hs, nestedSamples_eq s smp h.hs, ← List.map_append]
    exact hperm.map _

/-- the two `np.insert`s of `add_samples`: of the samples, and of the rows at the same places.  Which row belongs to which
sample is said through a row function `r` that the caller supplies (`s.rows = old.map r → … = ….map r`, here and in the
`*_observe` theorems); `Inv` itself keeps only the number of rows. -/
theorem insert_batch {s : OS} {old : List Smp} (h : Inv s old) (b : List (Smp × Nat)) {new : List Smp}
    (hnew : (sortBatch b).map (·.1) = new) :
    insertMany old (batchIdx old new) new 0 = mergeNew Smp.key old new ∧
    (insertMany s.rows (batchIdx old new) ((sortBatch b).map (·.2)) 0).length = (mergeNew Smp.key old new).length ∧
    ∀ r : Smp → Nat, s.rows = old.map r → (∀ x ∈ b, x.2 = r x.1) →
      insertMany s.rows (batchIdx old new) ((sortBatch b).map (·.2)) 0 = (mergeNew Smp.key old new).map r := by
  subst hnew
  have E1 := insert_eq_merge old ((sortBatch b).map (·.1)) h.sorted
  refine ⟨E1, ?_, fun r hr hbr => ?_⟩
  · rw [insertMany_length _ _ _ _ (by simp), mergeNew_length, h.rowsLen, List.length_map, List.length_map]
  · rw [← E1, hr, sortBatch_rows r b hbr, insertMany_map]

/-- the store after a soft-threshold insertion, given where the old and the new samples stand in the new array
(`op`, `np`) -/
theorem soft_picture {s : OS} {old new : List Smp} (h : Inv s old) {smp' : List Smp} {op np : List Nat}
    (hop : StrictInc op) (hnp : StrictInc np) (hpos : (op ++ np).Perm (List.range smp'.length))
    (hro : op.map (fun i => smp'.getD i default) = old) (hrn : np.map (fun i => smp'.getD i default) = new)
    (hs : SortedS smp') {rows' : List Nat} (hrows' : rows'.length = smp'.length) {live' : List Nat}
    (hlive' : live' = addToNested ((s.live.getD []).map (op.getD · 0)) np) :
    let s' : OS := { s with samples := some smp', rows := rows', live := some live',
                            nested := s.nested.map (op.getD · 0) }
    Inv s' smp' ∧ nestedSamples s' = nestedSamples s ∧ (liveSamples s').Perm (liveSamples s ++ new) := by
  subst hlive'
  intro s'
  have hlen : op.length = old.length := by rw [← hro, List.length_map]
  obtain ⟨hnI, hlI, hpart, hperm⟩ := remap_partition op np (s.live.getD []) s.nested _ hop hnp hpos h.liveInc
    h.nestedInc (hlen ▸ h.part)
  have hread : ∀ l : List Nat, (∀ i ∈ l, i ∈ s.live.getD [] ++ s.nested) →
      (l.map (op.getD · 0)).map (fun i => smp'.getD i default) = l.map fun i => old.getD i default := fun l hl => by
    rw [List.map_map]
    refine List.map_congr_left fun i hi => ?_
    have hi : i < op.length := hlen ▸ h.bound i (hl i hi)
    simp only [← hro, Function.comp, List.getD_eq_getElem?_getD, List.getElem?_map, List.getElem?_eq_getElem hi,
      Option.map_some, Option.getD_some]
  refine ⟨⟨rfl, hs, hrows', hlI, hnI, hpart⟩, ?_, ?_⟩
  · rw [nestedSamples_eq s' _ rfl, nestedSamples_eq s _ h.hs]
    exact hread _ fun i hi => by simp [hi]
  · rw [liveSamples_eq s' _ rfl, liveSamples_eq s _ h.hs]
    refine (hperm.map _).trans ?_
    rw [List.map_append, hread _ fun i hi => by simp [hi], hrn]

/-- a soft insertion of an empty batch raises: `get_inverse_indices` calls `.max()` on the empty `new_indices` -/
theorem addSamples_soft_nil {s : OS} (hst : s.strict = false) {s' : OS} : addSamples s [] ≠ .ok s' := by
  unfold addSamples
  cases s.samples <;> simp [hst, sortBatch, shiftIdx]

/-- soft insertion: discarded samples are untouched (same samples, same order), the live samples gain exactly the batch,
rows stay attached.  Both checks of the source pass for every non-empty batch, so that the call returns is part of the
conclusion (`∃ s'`); a strict insertion raises exactly when the threshold is `None` and the new array is not empty, so
`addSamples_strict_observe` is stated under `hok` instead. -/
theorem addSamples_soft_observe {s : OS} {old : List Smp} (h : Inv s old) (hst : s.strict = false)
    (b : List (Smp × Nat)) (hb : b ≠ []) :
    ∃ s', addSamples s b = .ok s' ∧ Inv s' (mergeNew Smp.key old ((sortBatch b).map (·.1))) ∧
      nestedSamples s' = nestedSamples s ∧
      (liveSamples s').Perm (liveSamples s ++ (sortBatch b).map (·.1)) ∧
      (∀ r : Smp → Nat, s.rows = old.map r → (∀ x ∈ b, x.2 = r x.1) →
        s'.rows = (mergeNew Smp.key old ((sortBatch b).map (·.1))).map r) ∧
      s'.thr = s.thr ∧ s'.strict = s.strict ∧ s'.replAll = s.replAll := by
  generalize hnew : (sortBatch b).map (·.1) = new
  obtain ⟨E1, hrowsLen, hattached⟩ := insert_batch h b hnew
  have hnewS : SortedS new := hnew ▸ sortBatch_sorted b
  have hsorted := mergeNew_sorted ordLaws_int _ _ _ h.sorted hnewS
  obtain ⟨hop, hnp, hpos, hro, hrn⟩ := insertMany_positions default old new (batchIdx old new) (List.length_map _).symm
    (batchIdx_mono old new hnewS) (batchIdx_bound old new)
  rw [E1] at hop hpos hro hrn
  -- the two checks of the source pass: the batch is not empty, and there are as many old positions as old samples
  have hchk1 : (shiftIdx (batchIdx old new) 0).isEmpty = false := by
    rw [shiftIdx_isEmpty, List.isEmpty_map, ← hnew, List.isEmpty_map, List.isEmpty_eq_false_iff]
    exact fun hc => hb (hc ▸ (sortBatch_perm b).symm).eq_nil
  have hchk2 : ((complement (mergeNew Smp.key old new).length (shiftIdx (batchIdx old new) 0)).length !=
      (mergeNew Smp.key old new).length - new.length) = false := by
    rw [← List.length_map (as := complement _ _), hro, mergeNew_length]; simp
  have hif : (s.strict = true) = False := by simp [hst]
  unfold addSamples
  simp only [h.hs, hif, hnew, E1, hchk1, hchk2, if_false, Bool.false_eq_true]
  cases hl : s.live with
  | none =>
    obtain ⟨h1, h2, h3⟩ := soft_picture h hop hnp hpos hro hrn hsorted hrowsLen (live' := shiftIdx (batchIdx old new) 0)
      (by simp [hl, addToNested_nil])
    exact ⟨_, rfl, h1, h2, h3, hattached, rfl, rfl, rfl⟩
  | some l =>
    obtain ⟨h1, h2, h3⟩ := soft_picture h hop hnp hpos hro hrn hsorted hrowsLen (by rw [hl])
    exact ⟨_, rfl, h1, h2, h3, hattached, rfl, rfl, rfl⟩

/-- strict insertion: the live set is exactly the samples at or above the threshold, the discarded ones those below;
rows stay attached -/
theorem addSamples_strict_observe {s : OS} {old : List Smp} (h : Inv s old) (hst : s.strict = true)
    (b : List (Smp × Nat)) {s' : OS} (hok : addSamples s b = .ok s') :
    Inv s' (mergeNew Smp.key old ((sortBatch b).map (·.1))) ∧
      (∀ t, s.thr = some t →
        liveSamples s' = (mergeNew Smp.key old ((sortBatch b).map (·.1))).filter (fun y => !decide (y.key < t)) ∧
        nestedSamples s' = (mergeNew Smp.key old ((sortBatch b).map (·.1))).filter (fun y => decide (y.key < t))) ∧
      (∀ r : Smp → Nat, s.rows = old.map r → (∀ x ∈ b, x.2 = r x.1) →
        s'.rows = (mergeNew Smp.key old ((sortBatch b).map (·.1))).map r) ∧
      s'.thr = s.thr ∧ s'.strict = s.strict ∧ s'.replAll = s.replAll := by
  generalize hnew : (sortBatch b).map (·.1) = new
  obtain ⟨E1, hrowsLen, hattached⟩ := insert_batch h b hnew
  have hsorted := mergeNew_sorted ordLaws_int Smp.key old new h.sorted (hnew ▸ sortBatch_sorted b)
  have hif : (s.strict = true) = True := eq_true hst
  unfold addSamples at hok
  simp only [h.hs, hif, hnew, if_true, E1] at hok
  split at hok
  · cases hok
  · rename_i n hn
    cases hok
    obtain ⟨hnle, hcount⟩ := count_eq_some (fun hc => by rw [List.isEmpty_iff.mp hc]; rfl) hn
    rw [keys, List.length_map] at hnle
    obtain ⟨hinv, hlive, hnested⟩ := strict_observe s n hsorted hrowsLen hnle
    refine ⟨hinv, fun t ht => ?_, hattached, rfl, rfl, rfl⟩
    obtain ⟨htake, hdrop⟩ := take_drop_countBelow t _ hsorted
    rw [hlive, hnested, hcount t ht]
    exact ⟨hdrop, htake⟩

/-- `finalise` (and `remove_samples` in replace-all mode, which does the same): every live sample is moved -/
theorem finalise_observe {s : OS} {smp : List Smp} (h : Inv s smp) {s' : OS} (hok : finalise s = .ok s') :
    Inv s' smp ∧ liveSamples s' = [] ∧ (nestedSamples s').Perm (nestedSamples s ++ liveSamples s) ∧
    s'.rows = s.rows ∧ s'.strict = s.strict ∧ s'.replAll = s.replAll := by
  unfold finalise at hok
  split at hok
  case h_2 => cases hok
  case h_1 _ l _ hl =>
    cases hok
    have := move_observe h l [] (by simp [hl]) none rfl
    rw [liveSamples_eq s smp h.hs, hl]
    exact ⟨this.1, this.2.1, this.2.2, rfl, rfl, rfl⟩

theorem removeSamples_replAll {s : OS} (hr : s.replAll = true) {s' : OS} {n : Nat}
    (hok : removeSamples s = .ok (s', n)) : finalise s = .ok s' ∧ n = (liveSamples s).length := by
  unfold removeSamples at hok
  unfold finalise liveSamples
  split at hok
  · rw [if_pos hr] at hok
    cases hok
    exact ⟨rfl, (List.length_map _).symm⟩
  · cases hok

/-- `remove_samples` without replace-all: the live samples strictly below the threshold are moved, `n` counts them -/
theorem removeSamples_observe {s : OS} {smp : List Smp} (h : Inv s smp) (hr : s.replAll = false)
    {s' : OS} {n : Nat} (hok : removeSamples s = .ok (s', n)) :
    Inv s' smp ∧
    (∀ t, s.thr = some t →
      n = ((liveSamples s).filter (fun y => decide (y.key < t))).length ∧
      liveSamples s' = (liveSamples s).filter (fun y => !decide (y.key < t)) ∧
      (nestedSamples s').Perm (nestedSamples s ++ (liveSamples s).filter (fun y => decide (y.key < t)))) ∧
    s'.rows = s.rows ∧ s'.strict = s.strict ∧ s'.replAll = s.replAll := by
  unfold removeSamples at hok
  split at hok
  case h_2 => cases hok
  case h_1 smp0 l hsm hl =>
    obtain rfl : smp = smp0 := Option.some.inj (h.hs.symm.trans hsm)
    have hLS : liveSamples s = l.map (fun i => smp.getD i default) := by rw [liveSamples_eq s smp h.hs, hl]; rfl
    have hLSs : SortedS (liveSamples s) := hLS ▸
      pairwise_map_getD smp default h.sorted l (by simpa [hl] using h.liveInc) fun i hi => h.bound i (by simp [hl, hi])
    rw [if_neg (by simp [hr]), show l.map (fun i => (smp.getD i default).key) = keys (liveSamples s) by
      rw [hLS, keys, List.map_map]; rfl] at hok
    split at hok
    · cases hok
    · rename_i m hm
      cases hok
      have hcount := (count_eq_some (fun hc => by rw [hLS, List.isEmpty_iff.mp hc]; rfl) hm).2
      have hobs := move_observe h (l.take n) (l.drop n) (by simp [hl]) (some (l.drop n)) rfl
      rw [List.map_drop, List.map_take, ← hLS] at hobs
      refine ⟨hobs.1, fun t ht => ?_, rfl, rfl, rfl⟩
      obtain ⟨htake, hdrop⟩ := take_drop_countBelow t _ hLSs
      rw [← hcount t ht] at htake hdrop
      exact ⟨(hcount t ht).trans (countBelow_keys t _), hobs.2.1.trans hdrop, htake ▸ hobs.2.2⟩

end NessaiVerif.Ordered
