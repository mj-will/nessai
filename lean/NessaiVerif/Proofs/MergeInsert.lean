import NessaiVerif.Proofs.InsertMany
/-
`np.insert(a, np.searchsorted(keys a, keys b), b)` for sorted `a` is the merge of `b`
into `a` that puts new elements BEFORE equal old ones; it is sorted when `b` is and a
permutation of `a ++ b`.  Generic in the key type through three order laws (instantiated
for `Int` likelihood keys and `Nat` index lists).
-/
namespace NessaiVerif.Np
variable {α κ : Type} [LT κ] [DecidableLT κ]

/-- the order facts used (all hold in any linear order) -/
structure OrdLaws (κ : Type) [LT κ] : Prop where
  /-- `p ≤ x`, `x < v` ⟹ `p < v` -/
  lt_of_le_of_lt : ∀ p x v : κ, ¬ x < p → x < v → p < v
  /-- `a ≤ b`, `b ≤ c` ⟹ `a ≤ c` -/
  le_trans : ∀ a b c : κ, ¬ b < a → ¬ c < b → ¬ c < a
  asymm : ∀ a b : κ, a < b → ¬ b < a

theorem ordLaws_int : OrdLaws Int := ⟨by intros; omega, by intros; omega, by intros; omega⟩
theorem ordLaws_nat : OrdLaws Nat := ⟨by intros; omega, by intros; omega, by intros; omega⟩

/-- non-decreasing in the key -/
def SortedK (k : α → κ) (l : List α) : Prop := l.Pairwise (fun x y => ¬ k y < k x)

def mergeNew (k : α → κ) : List α → List α → List α
  | a, [] => a
  | [], v :: vs => v :: vs
  | x :: xs, v :: vs =>
      if k x < k v then x :: mergeNew k xs (v :: vs) else v :: mergeNew k (x :: xs) vs

theorem mergeNew_perm (k : α → κ) (a b : List α) : (mergeNew k a b).Perm (a ++ b) := by
  fun_induction mergeNew k a b with
  | case1 a => simp
  | case2 v vs => simp
  | case3 x xs v vs h ih => simpa using ih
  | case4 x xs v vs h ih => exact (List.Perm.cons v ih).trans List.perm_middle.symm

omit [DecidableLT κ] in
theorem SortedK.le_of_le_head (L : OrdLaws κ) {k : α → κ} {z w : α} {ws : List α} (hw : SortedK k (w :: ws))
    (hzw : ¬ k w < k z) : ∀ y ∈ w :: ws, ¬ k y < k z := fun y hy => by
  rcases List.mem_cons.mp hy with rfl | hy
  · exact hzw
  · exact L.le_trans _ _ _ hzw ((List.pairwise_cons.mp hw).1 y hy)

theorem mergeNew_sorted (L : OrdLaws κ) (k : α → κ) (a b : List α)
    (ha : SortedK k a) (hb : SortedK k b) : SortedK k (mergeNew k a b) := by
  fun_induction mergeNew k a b with
  | case1 a => exact ha
  | case2 v vs => exact hb
  | case3 x xs v vs h ih =>
    refine List.pairwise_cons.mpr ⟨fun y hy => ?_, ih (List.pairwise_cons.mp ha).2 hb⟩
    rcases List.mem_append.mp ((mergeNew_perm k xs (v :: vs)).mem_iff.mp hy) with hy | hy
    · exact (List.pairwise_cons.mp ha).1 y hy
    · exact hb.le_of_le_head L (L.asymm _ _ h) y hy
  | case4 x xs v vs h ih =>
    refine List.pairwise_cons.mpr ⟨fun y hy => ?_, ih ha (List.pairwise_cons.mp hb).2⟩
    rcases List.mem_append.mp ((mergeNew_perm k (x :: xs) vs).mem_iff.mp hy) with hy | hy
    · exact ha.le_of_le_head L h y hy
    · exact (List.pairwise_cons.mp hb).1 y hy

theorem mergeNew_length (k : α → κ) (a b : List α) : (mergeNew k a b).length = a.length + b.length := by
  simpa using (mergeNew_perm k a b).length_eq

/-- the `searchsorted(side="left")` index against the whole sorted array decides the merge step -/
theorem ssl_le_iff (L : OrdLaws κ) (k : α → κ) (pre : List α) (x : α) (xs : List α) (v : κ)
    (hs : SortedK k (pre ++ x :: xs)) :
    ssl ((pre ++ x :: xs).map k) v ≤ pre.length ↔ ¬ k x < v := by
  rw [ssl, List.map_append]
  by_cases hxv : k x < v
  · -- every element of `pre` is `≤ x < v`: the scan runs past `pre` and takes `x`
    rw [List.takeWhile_append_of_pos fun y hy => by
      obtain ⟨p, hp, rfl⟩ := List.mem_map.mp hy
      exact decide_eq_true (L.lt_of_le_of_lt _ _ _ ((List.pairwise_append.mp hs).2.2 p hp x (by simp)) hxv)]
    simp [hxv]
  · -- `x` stops the scan: the count is the length of a prefix of `pre.map k`
    have hpre := (List.takeWhile_prefix (l := pre.map k) fun y => decide (y < v)).length_le
    have hstop : ((x :: xs).map k).takeWhile (fun y => decide (y < v)) = [] := by simp [hxv]
    rw [List.length_map] at hpre
    rw [List.takeWhile_append]
    split
    · -- the scan runs through `pre` and takes nothing of the tail
      rw [hstop, List.append_nil, List.length_map]
      exact iff_of_true (Nat.le_refl _) hxv
    · -- the scan stops inside `pre`
      exact iff_of_true hpre hxv

/-- `a` is the not-yet-consumed suffix of the sorted array `pre ++ a`, `pos = pre.length` -/
theorem insertMany_ssl_eq_merge (L : OrdLaws κ) (k : α → κ) (pre a b : List α)
    (hs : SortedK k (pre ++ a)) :
    insertMany a (b.map (fun v => ssl ((pre ++ a).map k) (k v))) b pre.length = mergeNew k a b := by
  fun_induction mergeNew k a b generalizing pre with
  | case1 a => cases a <;> simp [insertMany]
  | case2 v vs =>
    -- the old array is used up: `insertMany []` emits the values in order whatever their indices (induction on the values)
    induction vs generalizing v with
    | nil => simp [insertMany]
    | cons w ws ih => simpa [insertMany] using ih w
  | case3 x xs v vs hxv ih =>
    -- `x` goes first: the index of `v` points past it
    have hnle := mt (ssl_le_iff L k pre x xs (k v) hs).mp (not_not_intro hxv)
    have := ih (pre ++ [x]) (by simpa using hs)
    simp only [List.append_assoc, List.singleton_append, List.length_append, List.length_singleton,
      List.map_cons] at this
    simp only [List.map_cons, insertMany, hnle, if_false, this]
  | case4 x xs v vs hxv ih =>
    have hle := (ssl_le_iff L k pre x xs (k v) hs).mpr hxv
    simp only [List.map_cons, insertMany, hle, if_true, ih pre hs]

theorem insertMany_ssl_eq_merge0 (L : OrdLaws κ) (k : α → κ) (a b : List α) (hs : SortedK k a) :
    insertMany a (b.map (fun v => ssl (a.map k) (k v))) b 0 = mergeNew k a b := by
  simpa using insertMany_ssl_eq_merge L k [] a b (by simpa using hs)

end NessaiVerif.Np
