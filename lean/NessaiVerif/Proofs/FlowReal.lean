import NessaiVerif.Model.FlowAlgebra
import Mathlib.Analysis.SpecialFunctions.Log.Basic
/-
C08 — over ℝ with `lg = Real.log` (Mathlib's `Real.log x = log |x|`) the log-Jacobian a coupling / affine
layer reports, `Σ log|s i|`, is the logarithm of the absolute multiplicative volume factor `|∏ s i|`.
-/
namespace NessaiVerif.Flow

theorem scaleLogSum_eq_log_scaleProd {n : Nat} (m : Fin n → Bool) (s : Fin n → ℝ)
    (hs : ∀ i, m i = true → s i ≠ 0) :
    scaleLogSum Real.log m s = Real.log |scaleProd m s| := by
  unfold scaleLogSum scaleProd
  rw [Real.log_abs, Real.log_list_prod, List.map_ofFn]
  · congr 2
    funext i
    simp only [Function.comp]
    split <;> simp
  · intro a ha
    obtain ⟨i, rfl⟩ := List.mem_ofFn.1 ha
    split
    · exact hs i ‹_›
    · exact one_ne_zero

end NessaiVerif.Flow
