import NessaiVerif.Model.Results
import NessaiVerif.Proofs.Np
import Mathlib.Order.Basic
/-
C05, standard sampler: the states reachable by `populate` and `consume` satisfy `Inv`, and a loop segment from one of them
ends either cut by its cap in a reachable state or finalised (`loop_cases`).  The specifications of a single call (`run_spec`)
and of a chain of resumed calls (`chain_spec`) are both read off that alternative.
-/
namespace NessaiVerif.Results
open NessaiVerif.Np

variable {K : Type}

-- the concrete runs of Props/C05.lean are checked by `decide` on equations between `Except` values
deriving instance DecidableEq for Except

theorem logLs_of_calls_append {s t : NS K} {c : List (K × Option Nat)} (h : t.calls = s.calls ++ c) :
    t.logLs = s.logLs ++ c.map (fun a => some a.1) := by
  simp [NS.logLs, h]

theorem nliveSeen_of_none (s : NS K) (h : s.calls = s.nested.map (fun p => (p.logL, none))) :
    s.nliveSeen = List.replicate s.nested.length s.nlive := by
  simp [NS.nliveSeen, h, Function.comp_def, List.map_const']

theorem handOver_fst (n i : Nat) (l : List (Pt K)) : (handOver n i l).map (·.1) = l.map (·.logL) := by
  induction l generalizing i with
  | nil => rfl
  | cons p ps ih => simp [handOver, ih]

theorem handOver_resolved (n i base : Nat) (l : List (Pt K)) (h : i + l.length = n) :
    (handOver n i l).map (fun c => c.2.getD base) = Quad.countdown l.length := by
  induction l generalizing i with
  | nil => rfl
  | cons p ps ih =>
    simp only [List.length_cons] at h
    simp only [handOver, List.map_cons, List.length_cons, Quad.countdown, Option.getD_some, ih (i + 1) (by omega)]
    congr 1
    omega

/-- every point the sampler holds: recorded ones and live ones -/
def NS.points (s : NS K) : List (Pt K) := s.nested ++ s.live.getD []

theorem finalise_points {s s' : NS K} (h : finalise s = .ok s') : s'.points = s.points := by
  unfold finalise at h
  split at h
  · cases h
  · rename_i l hl; cases h; simp [NS.points, hl]

variable [LinearOrder K]

def SortedL (l : List (Pt K)) : Prop := l.Pairwise (fun a b => a.logL ≤ b.logL)

/-- the birth likelihood `logLs[p.it]` exists and lies strictly below the point's likelihood -/
def BirthLt (logLs : List (Option K)) (p : Pt K) : Prop :=
  ∃ b, logLs[p.it]? = some b ∧ ltExt b p.logL

-- `insSorted` and `insert_live_point` both insert at the `takeWhile` split (Proofs/Np.lean)

theorem insSorted_eq (x : K) (l : List K) :
    insSorted x l = l.takeWhile (fun y => decide (y < x)) ++ x :: l.dropWhile (fun y => decide (y < x)) := by
  induction l with
  | nil => rfl
  | cons y ys ih => by_cases h : y < x <;> simp [insSorted, h, ih]

theorem sortK_perm (l : List K) : (sortK l).Perm l := by
  induction l with
  | nil => exact .nil
  | cons a as ih =>
    show (insSorted a (sortK as)).Perm _
    rw [insSorted_eq]
    exact (perm_insert_takeWhile _ a _).trans (ih.cons a)

theorem sorted_sortK (l : List K) : (sortK l).Pairwise (· ≤ ·) := by
  induction l with
  | nil => exact .nil
  | cons a as ih =>
    show (insSorted a (sortK as)).Pairwise _
    rw [insSorted_eq]
    exact pairwise_insert_takeWhile le_trans (fun _ hy => (of_decide_eq_true hy).le)
      (fun _ hy => not_lt.mp (of_decide_eq_false hy)) ih

theorem length_sortK (l : List K) : (sortK l).length = l.length := (sortK_perm l).length_eq

theorem mem_sortK (l : List K) (y : K) : y ∈ sortK l ↔ y ∈ l := (sortK_perm l).mem_iff

/-- `p` placed in `rest` in front of the first point that is not below it: its `searchsorted` position -/
def placed (rest : List (Pt K)) (p : Pt K) : List (Pt K) :=
  rest.takeWhile (fun x => decide (x.logL < p.logL)) ++ p :: rest.dropWhile (fun x => decide (x.logL < p.logL))

theorem placed_perm (rest : List (Pt K)) (p : Pt K) : (placed rest p).Perm (p :: rest) :=
  perm_insert_takeWhile _ p rest

theorem mem_placed {rest : List (Pt K)} {p x : Pt K} : x ∈ placed rest p ↔ x = p ∨ x ∈ rest :=
  (placed_perm rest p).mem_iff.trans List.mem_cons

theorem sorted_placed {rest : List (Pt K)} (hs : SortedL rest) (p : Pt K) : SortedL (placed rest p) :=
  pairwise_insert_takeWhile le_trans (fun _ hx => (of_decide_eq_true hx).le)
    (fun _ hx => not_lt.mp (of_decide_eq_false hx)) hs

theorem insertLive_spec (worst : Pt K) (rest : List (Pt K)) (p : Pt K) (h : worst.logL < p.logL) :
    insertLive (worst :: rest) p = .ok (placed rest p) := by
  simp [insertLive, placed, ssl_cons_of_lt, h, ssl_map, take_length_takeWhile, drop_length_takeWhile]

/-- when the new point is NOT above the worst one NumPy's slice assignment fails (with two or more live points: a
single one NumPy replaces, and only the model fails) -/
theorem insertLive_fails (worst : Pt K) (rest : List (Pt K)) (p : Pt K) (h : ¬ worst.logL < p.logL) :
    insertLive (worst :: rest) p = .error .shapeErr := by
  simp [insertLive, ssl_cons_of_not_lt, h]

theorem firstAbove_spec {lmin : K} {stream : List K} {c : K} (h : firstAbove lmin stream = some c) :
    lmin < c ∧ c ∈ stream := by
  induction stream with
  | nil => cases h
  | cons a as ih =>
    rw [firstAbove] at h
    split at h
    · cases h; exact ⟨‹_›, List.mem_cons_self⟩
    · exact (ih h).imp_right (List.mem_cons_of_mem _)

theorem consume_ok {s s' : NS K} {stream : List K} (h : consume s stream = .ok s') :
    ∃ worst rest c, s.live = some (worst :: rest) ∧ worst.logL < c ∧ c ∈ stream ∧
      s' = { s with live := some (placed rest ⟨c, s.iteration + 1⟩), nested := s.nested ++ [worst],
                    calls := s.calls ++ [(worst.logL, none)], iteration := s.iteration + 1 } := by
  unfold consume at h
  split at h
  · cases h
  · cases h
  · rename_i worst rest hl
    split at h
    · cases h
    · rename_i c hfa
      obtain ⟨hlt, hmem⟩ := firstAbove_spec hfa
      rw [insertLive_spec worst rest _ hlt] at h
      cases h
      exact ⟨worst, rest, c, hl, hlt, hmem, rfl⟩

/-- between iterations: not finalised, `l` are the `nlive` live points, one recorded point and one `increment` call
(without `nlive`) per iteration, recorded points then live ones ascend in `logL`, every point lies above its birth likelihood -/
structure Inv (s : NS K) (l : List (Pt K)) : Prop where
  notFin : s.finalised = false
  hlive : s.live = some l
  liveLen : l.length = s.nlive
  count : s.nested.length = s.iteration
  calls : s.calls = s.nested.map (fun p => (p.logL, none))
  sorted : SortedL (s.nested ++ l)
  birth : ∀ p ∈ s.nested ++ l, BirthLt s.logLs p

theorem inv_populate (pts : List K) : Inv (populate pts) ((sortK pts).map fun x => ⟨x, 0⟩) := by
  refine ⟨rfl, rfl, by simp [populate, length_sortK], rfl, rfl, ?_, ?_⟩
  · exact List.pairwise_map.mpr (sorted_sortK pts)
  · intro p hp
    obtain ⟨x, _, rfl⟩ := List.mem_map.mp hp
    exact ⟨none, rfl, trivial⟩

theorem birthLt_mono {l1 : List (Option K)} (l2 : List (Option K)) {p : Pt K} (h : BirthLt l1 p) :
    BirthLt (l1 ++ l2) p := by
  obtain ⟨b, hb, hlt⟩ := h
  have hi : p.it < l1.length := (List.getElem?_eq_some_iff.mp hb).1
  exact ⟨b, by rw [List.getElem?_append_left hi]; exact hb, hlt⟩

theorem inv_consume {s s' : NS K} {l : List (Pt K)} (h : Inv s l) {stream : List K}
    (hok : consume s stream = .ok s') : ∃ l', Inv s' l' ∧ s'.nlive = s.nlive := by
  obtain ⟨worst, rest, c, hl, hlt, -, rfl⟩ := consume_ok hok
  obtain rfl : l = worst :: rest := Option.some.inj (h.hlive.symm.trans hl)
  obtain ⟨hn, hwr, hcross⟩ := List.pairwise_append.mp h.sorted
  obtain ⟨hw, hr⟩ := List.pairwise_cons.mp hwr
  have hwb : ∀ b ∈ placed rest ⟨c, s.iteration + 1⟩, worst.logL ≤ b.logL := by
    intro b hb
    rcases mem_placed.mp hb with rfl | hb
    · exact hlt.le
    · exact hw b hb
  refine ⟨_, ⟨h.notFin, rfl, ?_, ?_, ?_, ?_, ?_⟩, rfl⟩
  · rw [(placed_perm rest _).length_eq, ← h.liveLen]; rfl
  · simp [h.count]
  · simp [h.calls]
  · show SortedL (s.nested ++ [worst] ++ placed rest _)
    rw [List.append_assoc, List.singleton_append]
    refine List.pairwise_append.mpr ⟨hn, List.pairwise_cons.mpr ⟨hwb, sorted_placed hr _⟩, fun a ha b hb => ?_⟩
    have haw := hcross a ha worst List.mem_cons_self
    rcases List.mem_cons.mp hb with rfl | hb
    · exact haw
    · exact haw.trans (hwb b hb)
  · intro p hp
    rw [logLs_of_calls_append (s := s) rfl]
    have hp' : p = ⟨c, s.iteration + 1⟩ ∨ p ∈ s.nested ++ worst :: rest := by
      simpa using (((placed_perm rest _).append_left _).trans List.perm_middle).mem_iff.mp hp
    rcases hp' with rfl | hp'
    · -- the new point is born at `logLs[iteration + 1]`, the entry just appended
      have hlen : s.logLs.length = s.iteration + 1 := by simp [NS.logLs, h.calls, h.count]
      exact ⟨some worst.logL, by simp [← hlen], hlt⟩
    · exact birthLt_mono _ (h.birth p hp')

/-- states reachable by populating and consuming (any number of checkpoint/resume cycles in between: pickling is the
identity on this state) -/
inductive Reachable (n : Nat) : NS K → Prop
  | pop (pts : List K) (h : pts.length = n) : Reachable n (populate pts)
  | step (s : NS K) (hs : Reachable n s) (stream : List K) (s' : NS K) (h : consume s stream = .ok s') :
      Reachable n s'

theorem reachable_inv {n : Nat} {s : NS K} (h : Reachable n s) : ∃ l, Inv s l ∧ s.nlive = n := by
  induction h with
  | pop pts hp => exact ⟨_, inv_populate pts, hp⟩
  | step s _ stream s' hok ih =>
    obtain ⟨l, hinv, hnl⟩ := ih
    obtain ⟨l', hinv', hnl'⟩ := inv_consume hinv hok
    exact ⟨l', hinv', hnl'.trans hnl⟩

/-- invariant rule for the `while` loop: a property `P` of the entry state that every successful `consume` of a scripted step
preserves (`hstep`) holds of the state the loop returns; and if the loop stopped with the test still false, the cap was reached -/
theorem whileLoop_ok {P : NS K → Prop} {maxIt : Option Nat} {steps : List (List K × Bool)} {s s' : NS K} {below b : Bool}
    (hok : whileLoop maxIt s below steps = .ok (s', b)) (h0 : P s)
    (hstep : ∀ st ∈ steps, ∀ s1 s2, P s1 → consume s1 st.1 = .ok s2 → P s2) :
    P s' ∧ (b = false → capReached maxIt s'.iteration = true) := by
  fun_induction whileLoop maxIt s below steps with
  | case1 _ s => cases hok; exact ⟨h0, nofun⟩  -- the test already holds
  | case2 => cases hok  -- script ended
  | case3 => cases hok  -- `consume` failed
  | case4 s stream b1 rest s1 hc hcap =>  -- cap reached after this step
    cases hok; exact ⟨hstep _ List.mem_cons_self s _ h0 hc, fun _ => hcap⟩
  | case5 s stream b1 rest s1 hc hcap ih =>  -- the loop goes on
    exact ih hok (hstep _ List.mem_cons_self s s1 h0 hc) fun st hst => hstep st (List.mem_cons_of_mem _ hst)

/-- what a completed `nested_sampling_loop` leaves behind -/
structure FinalSpec (n : Nat) (maxIt : Option Nat) (r : NS K) : Prop where
  nlive : r.nlive = n
  count : r.nested.length = r.iteration + (if r.finalised then n else 0)
  cut : r.finalised = false → capReached maxIt r.iteration = true
  sorted : SortedL r.nested
  birth : ∀ p ∈ r.nested, BirthLt r.logLs p
  callsL : r.calls.map (·.1) = r.nested.map (·.logL)
  callsN : r.nliveSeen = if r.finalised then Quad.scheduleIncr r.iteration n else List.replicate r.iteration n

/-- what every state handed back to the caller satisfies, finalised or not -/
structure ResultSpec (n : Nat) (r : NS K) : Prop where
  nlive : r.nlive = n
  count : r.nested.length = r.iteration + (if r.finalised then n else 0)
  sorted : SortedL r.nested
  birth : ∀ p ∈ r.nested, BirthLt r.logLs p
  callsL : r.calls.map (·.1) = r.nested.map (·.logL)
  callsN : r.nliveSeen = if r.finalised then Quad.scheduleIncr r.iteration n else List.replicate r.iteration n

/-- `FinalSpec` is `ResultSpec` plus `cut`.  The cap belongs to one segment, so a chain of resumed calls gets `ResultSpec`
only (`chain_spec`). -/
theorem FinalSpec.toResult {n : Nat} {maxIt : Option Nat} {r : NS K} (h : FinalSpec n maxIt r) : ResultSpec n r :=
  ⟨h.nlive, h.count, h.sorted, h.birth, h.callsL, h.callsN⟩

theorem spec_of_inv {s : NS K} {l : List (Pt K)} (h : Inv s l) : ResultSpec s.nlive s where
  nlive := rfl
  count := by simp [h.notFin, h.count]
  sorted := (List.pairwise_append.mp h.sorted).1
  birth p hp := h.birth p (List.mem_append_left _ hp)
  callsL := by simp [h.calls]
  callsN := by simp [nliveSeen_of_none s h.calls, h.notFin, h.count]

theorem spec_of_reachable {n : Nat} {s : NS K} (hs : Reachable n s) : ResultSpec n s := by
  obtain ⟨l, hinv, rfl⟩ := reachable_inv hs
  exact spec_of_inv hinv

theorem spec_of_finalise {s r : NS K} {l : List (Pt K)} (h : Inv s l) (hf : finalise s = .ok r) :
    ResultSpec s.nlive r ∧ r.finalised = true := by
  rw [finalise, h.hlive] at hf
  cases hf
  refine ⟨⟨rfl, by simp [h.count, h.liveLen], h.sorted, fun p hp => ?_, by simp [h.calls, handOver_fst], ?_⟩, rfl⟩
  · rw [logLs_of_calls_append (s := s) rfl]
    exact birthLt_mono _ (h.birth p hp)
  · have h1 := nliveSeen_of_none s h.calls
    simp only [NS.nliveSeen] at h1 ⊢
    rw [List.map_append, h1, handOver_resolved s.nlive 0 s.nlive l (by simp [h.liveLen]), h.count, h.liveLen]
    rfl

/-- one loop segment from a reachable state ends either un-finalised in a reachable state (cut short by the cap: it can be
resumed) or finalised -/
theorem loop_cases {n : Nat} {s r : NS K} (hs : Reachable n s) {maxIt : Option Nat} {below : Bool}
    {steps : List (List K × Bool)} (h : nestedSamplingLoop maxIt s below steps = .ok r) :
    (Reachable n r ∧ capReached maxIt r.iteration = true) ∨ (ResultSpec n r ∧ r.finalised = true) := by
  obtain ⟨_, hinv0, _⟩ := reachable_inv hs
  rw [nestedSamplingLoop, if_neg (by simp [hinv0.notFin])] at h
  split at h
  · cases h
  · rename_i s' b hw
    obtain ⟨hr', hcap⟩ := whileLoop_ok hw hs fun _ _ s1 s2 h1 hc => .step s1 h1 _ s2 hc
    obtain ⟨_, hinv, rfl⟩ := reachable_inv hr'
    cases b
    · simp only [Bool.and_false, Bool.false_eq_true, if_false, Except.ok.injEq] at h
      subst h
      exact Or.inl ⟨hr', hcap rfl⟩
    · simp only [hinv.notFin, Bool.not_false, Bool.and_self, if_true] at h
      exact Or.inr (spec_of_finalise hinv h)

theorem run_spec {n : Nat} {s r : NS K} (hs : Reachable n s) {maxIt : Option Nat} {below : Bool}
    {steps : List (List K × Bool)} (h : nestedSamplingLoop maxIt s below steps = .ok r) : FinalSpec n maxIt r := by
  rcases loop_cases hs h with ⟨hr, hcap⟩ | ⟨sp, hfin⟩
  · have sp := spec_of_reachable hr
    exact ⟨sp.nlive, sp.count, fun _ => hcap, sp.sorted, sp.birth, sp.callsL, sp.callsN⟩
  · exact ⟨sp.nlive, sp.count, by simp [hfin], sp.sorted, sp.birth, sp.callsL, sp.callsN⟩

theorem runSegments_finalised (segs : List (Option Nat × Bool × List (List K × Bool))) {s : NS K}
    (h : s.finalised = true) : runSegments s segs = .ok s := by
  induction segs with
  | nil => rfl
  | cons seg rest ih =>
    obtain ⟨m, b, st⟩ := seg
    simp only [runSegments, nestedSamplingLoop, h, ↓reduceIte]
    exact ih

theorem chain_spec {n : Nat} {s r : NS K} (hs : Reachable n s) {segs : List (Option Nat × Bool × List (List K × Bool))}
    (h : runSegments s segs = .ok r) : ResultSpec n r := by
  fun_induction runSegments s segs with
  | case1 s => cases h; exact spec_of_reachable hs  -- no segment left
  | case2 => cases h  -- the segment failed
  | case3 s m b st rest s1 h1 ih =>  -- the segment returned `s1`
    rcases loop_cases hs h1 with ⟨hr, _⟩ | ⟨sp, hfin⟩
    · exact ih hr h
    · -- finalised: the remaining segments hand `s1` back unchanged
      rw [runSegments_finalised rest hfin] at h
      cases h
      exact sp

/-- no iteration alters or invents a likelihood: the step behind `C05.stored_values_are_evaluated_values_partial`, the
bookkeeping half of "stored logL = model(sample)" -/
theorem consume_origin {s s' : NS K} {stream : List K} (hok : consume s stream = .ok s') :
    ∀ p ∈ s'.points, (∃ q ∈ s.points, q.logL = p.logL) ∨ p.logL ∈ stream := by
  obtain ⟨worst, rest, c, hl, -, hmem, rfl⟩ := consume_ok hok
  intro p hp
  simp only [NS.points, hl, Option.getD_some, List.mem_append, List.mem_singleton, mem_placed] at hp ⊢
  rcases hp with (hp | rfl) | rfl | hp
  · exact Or.inl ⟨p, Or.inl hp, rfl⟩
  · exact Or.inl ⟨p, Or.inr List.mem_cons_self, rfl⟩
  · exact Or.inr hmem
  · exact Or.inl ⟨p, Or.inr (List.mem_cons_of_mem _ hp), rfl⟩

theorem whileLoop_origin {maxIt : Option Nat} {steps : List (List K × Bool)} {s s' : NS K} {below b : Bool}
    (hok : whileLoop maxIt s below steps = .ok (s', b)) :
    ∀ p ∈ s'.points, (∃ q ∈ s.points, q.logL = p.logL) ∨ ∃ st ∈ steps, p.logL ∈ st.1 := by
  refine (whileLoop_ok (P := fun t => ∀ p ∈ t.points, (∃ q ∈ s.points, q.logL = p.logL) ∨ ∃ st ∈ steps, p.logL ∈ st.1)
    hok (fun p hp => Or.inl ⟨p, hp, rfl⟩) fun st hst s1 s2 h1 hc p hp => ?_).1
  rcases consume_origin hc p hp with ⟨q, hq, e⟩ | hin
  · rw [← e]
    exact h1 q hq
  · exact Or.inr ⟨st, hst, hin⟩

end NessaiVerif.Results
