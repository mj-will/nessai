import NessaiVerif.Model.PyDict
/-
The dictionary operations on a cons, and on `PyDict.ofList`: a dictionary with consecutive integer keys behaves
like the list of its values.
-/
namespace NessaiVerif.PyDict

variable {κ V : Type} [DecidableEq κ]

theorem has_cons (k' k : κ) (v : V) (d : List (κ × V)) :
    has ((k', v) :: d) k = (k' == k || has d k) := rfl

theorem getD_cons (k' k : κ) (v dflt : V) (d : List (κ × V)) :
    getD ((k', v) :: d) k dflt = if k' = k then v else getD d k dflt := by
  by_cases h : k' = k <;> simp [getD, h]

theorem update_cons (d : List (κ × V)) (kv : κ × V) (e : List (κ × V)) :
    update d (kv :: e) = update (set d kv.1 kv.2) e := rfl

@[simp] theorem values_ofList (s : Int) (l : List V) : values (ofList s l) = l := by
  induction l generalizing s with
  | nil => rfl
  | cons v vs ih => exact congrArg (v :: ·) (ih (s + 1))

@[simp] theorem length_ofList (s : Int) (l : List V) : (ofList s l).length = l.length := by
  induction l generalizing s with
  | nil => rfl
  | cons v vs ih => simp [ofList, ih]

theorem map_ofList {W : Type} (f : V → W) (s : Int) (l : List V) :
    (ofList s l).map (fun kv => (kv.1, f kv.2)) = ofList s (l.map f) := by
  induction l generalizing s with
  | nil => rfl
  | cons v vs ih => simp [ofList, ih]

theorem has_ofList (s : Int) (l : List V) (k : Int) :
    has (ofList s l) k = decide (s ≤ k ∧ k < s + l.length) := by
  induction l generalizing s with
  | nil => simp [ofList, has]
  | cons v vs ih =>
    rw [ofList, has_cons, ih, Bool.eq_iff_iff]
    simp only [Bool.or_eq_true, beq_iff_eq, decide_eq_true_eq, List.length_cons]
    omega

theorem has_ofList_add (s : Int) (l : List V) (i : Nat) :
    has (ofList s l) (s + i) = decide (i < l.length) := by
  rw [has_ofList, decide_eq_decide]; omega

theorem getD_ofList (s : Int) (l : List V) (i : Nat) (d : V) :
    getD (ofList s l) (s + i) d = l.getD i d := by
  induction l generalizing s i with
  | nil => rfl
  | cons v vs ih =>
    cases i with
    | zero => simp [ofList, getD_cons]
    | succ i =>
      rw [ofList, getD_cons, if_neg (by omega), List.getD_cons_succ, ← ih (s + 1) i]
      congr 1
      omega

theorem set_ofList {s : Int} {l : List V} {i : Nat} {v : V} (h : i ≤ l.length) :
    set (ofList s l) (s + i) v = ofList s (if i < l.length then l.set i v else l ++ [v]) := by
  induction l generalizing s i with
  | nil =>
    obtain rfl : i = 0 := Nat.le_zero.mp h
    simp [ofList, set]
  | cons x xs ih =>
    cases i with
    | zero => simp [ofList, set]
    | succ i =>
      have e : s + ((i + 1 : Nat) : Int) = s + 1 + (i : Int) := by omega
      rw [ofList, set, if_neg (by omega), e, ih (Nat.le_of_succ_le_succ h)]
      simp only [List.length_cons, Nat.add_lt_add_iff_right]
      split <;> rfl

theorem le_key_ofList {s : Int} {l : List V} {kv : Int × V} (h : kv ∈ ofList s l) : s ≤ kv.1 := by
  induction l generalizing s with
  | nil => cases h
  | cons v vs ih =>
    rcases List.mem_cons.mp h with rfl | h
    · exact Int.le_refl _
    · have := ih h; omega

theorem update_cons_of_notMem (k : κ) (v : V) (d e : List (κ × V)) (h : ∀ kv ∈ e, k ≠ kv.1) :
    update ((k, v) :: d) e = (k, v) :: update d e := by
  induction e generalizing d with
  | nil => rfl
  | cons kv e ih =>
    rw [update_cons, update_cons, set, if_neg (h kv List.mem_cons_self)]
    exact ih _ (fun kv' h' => h kv' (List.mem_cons_of_mem _ h'))

theorem update_ofList_append (s : Int) (l l' : List V) :
    update (ofList s l) (ofList s l') = ofList s (l' ++ l.drop l'.length) := by
  induction l' generalizing s l with
  | nil => rfl
  | cons v' l' ih =>
    -- the first key is written, then framed off: the remaining keys of the update are larger
    have hs : ∀ kv ∈ ofList (s + 1) l', s ≠ kv.1 := fun kv hkv => by have := le_key_ofList hkv; omega
    have hset : set (ofList s l) s v' = (s, v') :: ofList (s + 1) l.tail := by
      cases l <;> simp [ofList, set]
    rw [ofList, update_cons, hset, update_cons_of_notMem s v' _ _ hs, ih, List.drop_tail]
    rfl

theorem update_ofList (s : Int) (l l' : List V) (h : l.length ≤ l'.length) :
    update (ofList s l) (ofList s l') = ofList s l' := by
  rw [update_ofList_append, List.drop_eq_nil_of_le h, List.append_nil]

end NessaiVerif.PyDict
