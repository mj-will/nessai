import NessaiVerif.Proofs.Information
import Mathlib.Analysis.SpecialFunctions.Log.Basic
/- The information recursion over ℝ with `lg = Real.log`: Gibbs' inequality for the textbook value. -/
namespace NessaiVerif.Info
open NessaiVerif.Quad

/-- prior masses `π_i = w_{i-1} (1 - t_i)` of the shells -/
def prior {K : Type} [Mul K] [Sub K] [OfNat K 1] (w : K) : List (K × K) → List K
  | [] => []
  | (_, t) :: rest => (w * (1 - t)) :: prior (w * t) rest

theorem sumL_prior_le (w : ℝ) (hw : 0 < w) (steps : List (ℝ × ℝ)) (h : Pos steps) :
    0 ≤ sumL (prior w steps) ∧ sumL (prior w steps) ≤ w := by
  induction steps generalizing w with
  | nil => exact ⟨le_rfl, hw.le⟩
  | cons p rest ih =>
    obtain ⟨-, ht0, ht1⟩ := h.head
    obtain ⟨ih0, ih1⟩ := ih (w * p.2) (mul_pos hw ht0) h.tail
    have h1 : 0 < w * (1 - p.2) := mul_pos hw (sub_pos.mpr ht1)
    simp only [prior, sumL]
    exact ⟨by linarith, by linarith⟩

theorem sumL_prior_pos (w : ℝ) (hw : 0 < w) (steps : List (ℝ × ℝ)) (h : Pos steps) (hne : steps ≠ []) :
    0 < sumL (prior w steps) := by
  cases steps with
  | nil => exact absurd rfl hne
  | cons p rest =>
    obtain ⟨-, ht0, ht1⟩ := h.head
    exact add_pos_of_pos_of_nonneg (mul_pos hw (sub_pos.mpr ht1)) (sumL_prior_le (w * p.2) (mul_pos hw ht0) rest h.tail).1

theorem sumL_terms_pos (w : ℝ) (hw : 0 < w) (steps : List (ℝ × ℝ)) (h : Pos steps) (hne : steps ≠ []) :
    0 < sumL (terms w steps) := by
  cases steps with
  | nil => exact absurd rfl hne
  | cons p rest =>
    obtain ⟨hL, ht0, ht1⟩ := h.head
    exact add_pos_of_pos_of_nonneg (term_pos hw hL ht1)
      (sumL_terms_nonneg (w * p.2) (mul_pos hw ht0) rest h.tail)

/-- `log x ≥ 1 - 1/x` at `x = L c`, weighted with `π L` -/
theorem gibbs_term (π L c : ℝ) (hπ : 0 ≤ π) (hL : 0 < L) (hc : 0 < c) :
    π * L - π / c ≤ π * L * (Real.log L + Real.log c) := by
  have hlog := Real.one_sub_inv_le_log_of_pos (mul_pos hL hc)
  rw [Real.log_mul hL.ne' hc.ne'] at hlog
  have e : π * L - π / c = π * L * (1 - (L * c)⁻¹) := by field_simp
  rw [e]
  exact mul_le_mul_of_nonneg_left hlog (mul_nonneg hπ hL.le)

theorem gibbs_sum (c : ℝ) (hc : 0 < c) (w : ℝ) (hw : 0 < w) (steps : List (ℝ × ℝ)) (h : Pos steps) :
    sumL (terms w steps) - sumL (prior w steps) / c ≤
      weightedLogs Real.log w steps + Real.log c * sumL (terms w steps) := by
  induction steps generalizing w with
  | nil => simp [terms, prior, weightedLogs, sumL]
  | cons p rest ih =>
    obtain ⟨L, t⟩ := p
    obtain ⟨hL, ht0, ht1⟩ := h.head
    have ih' := ih (w * t) (mul_pos hw ht0) h.tail
    have key := gibbs_term (w * (1 - t)) L c (mul_pos hw (sub_pos.mpr ht1)).le hL hc
    simp only [terms, prior, weightedLogs, sumL, add_div]
    linarith

theorem textbook_ge (steps : List (ℝ × ℝ)) (h : Pos steps) (hne : steps ≠ []) :
    -Real.log (sumL (prior 1 steps)) ≤ textbook Real.log steps ∧ 0 ≤ -Real.log (sumL (prior 1 steps)) := by
  have hZ := sumL_terms_pos 1 one_pos steps h hne
  have hP := sumL_prior_pos 1 one_pos steps h hne
  -- `gibbs_sum` at `c = P / Z` (so that `P / c = Z`), divided by `Z`
  have g := gibbs_sum (sumL (prior 1 steps) / sumL (terms 1 steps)) (div_pos hP hZ) 1 one_pos steps h
  rw [div_div_cancel₀ hP.ne', Real.log_div hP.ne' hZ.ne', sub_self] at g
  have g' := div_nonneg g hZ.le
  rw [add_div, mul_div_cancel_right₀ _ hZ.ne'] at g'
  exact ⟨by rw [textbook]; linarith,
    neg_nonneg.mpr (Real.log_nonpos hP.le (sumL_prior_le 1 one_pos steps h).2)⟩

end NessaiVerif.Info
