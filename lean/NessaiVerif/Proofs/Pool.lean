import NessaiVerif.Model.Pool
/-
C09 — NaN and `−∞` survive a subtraction on the left (as NaN or `−∞`) and fail `> log_u` and `>= 0`, so a weight that passes an
acceptance test is neither (`acceptFlow_weight`, `acceptRej_weight`).  `acceptMask` and `rejectMask` are one function, `testMask`,
so what holds of a selected row is proved once.  Core Lean only.
-/
namespace NessaiVerif.Pool
open EV

theorem sub_nan_left (m : EV) : sub .nan m = .nan := by cases m <;> rfl

theorem sub_ninf_left (m : EV) : sub .ninf m = .nan ∨ sub .ninf m = .ninf := by
  cases m with
  | nan | ninf => exact Or.inl rfl
  | fin _ | pinf => exact Or.inr rfl

theorem sub_left_ne {a m : EV} (h : sub a m ≠ .nan ∧ sub a m ≠ .ninf) : a ≠ .nan ∧ a ≠ .ninf := by
  refine ⟨?_, ?_⟩ <;> rintro rfl
  · exact h.1 (sub_nan_left m)
  · exact (sub_ninf_left m).elim h.1 h.2

theorem gt_true_left {a u : EV} (h : gt a u = true) : a ≠ .nan ∧ a ≠ .ninf := by
  cases a with
  | nan => cases h
  | ninf => cases u <;> cases h
  | fin _ | pinf => exact ⟨nofun, nofun⟩

theorem ge_zero_left {a : EV} (h : ge a (.fin 0) = true) : a ≠ .nan ∧ a ≠ .ninf := by
  cases a with
  | nan | ninf => cases h
  | fin _ | pinf => exact ⟨nofun, nofun⟩

theorem acceptFlow_weight {lw m u : EV} (h : acceptFlow lw m u = true) : lw ≠ .nan ∧ lw ≠ .ninf :=
  sub_left_ne (gt_true_left h)

theorem acceptRej_weight {lw m u : EV} (h : acceptRej lw m u = true) : lw ≠ .nan ∧ lw ≠ .ninf :=
  sub_left_ne (sub_left_ne (ge_zero_left h))

theorem finite_of_not {p : EV} (h1 : p ≠ .nan) (h2 : p ≠ .ninf) (h3 : p ≠ .pinf) : p.isFinite = true := by
  cases p with
  | nan => exact absurd rfl h1
  | ninf => exact absurd rfl h2
  | pinf => exact absurd rfl h3
  | fin _ => rfl

theorem mem_checkPriorBounds {cs : List Cand} {c : Cand} :
    c ∈ checkPriorBounds cs ↔ c ∈ cs ∧ c.inb = true := by
  simp [checkPriorBounds]

theorem mem_backwardPass {cs : List Cand} {c : Cand} :
    c ∈ backwardPass cs ↔ c ∈ cs ∧ c.logq.isFinite = true ∧ c.inb = true := by
  -- `backwardPass cs` is `checkPriorBounds` of the rows with a finite `log_q`
  exact mem_checkPriorBounds.trans ((and_congr_left' List.mem_filter).trans and_assoc)

theorem mem_truncate {t : Option EV} {cs : List Cand} {c : Cand} (h : c ∈ truncate t cs) : c ∈ cs := by
  cases t with
  | none => exact h
  | some m => exact (List.mem_filter.1 h).1

theorem mem_survivors {t : Option EV} {b : List Cand} {c : Cand} (h : c ∈ survivors t b) :
    c ∈ b ∧ c.logq.isFinite = true ∧ c.inb = true :=
  mem_backwardPass.1 (mem_truncate h)

theorem batchCrashes_eq_true {z : Bool} {b : List Cand} :
    batchCrashes z b = true ↔ z = true ∧ ∃ c ∈ b, c.logq.isFinite = false := by
  simp [batchCrashes]

section select
variable {α : Type}

@[simp] theorem select_nil_left (xs : List α) : select [] xs = [] := by cases xs <;> rfl
@[simp] theorem select_nil_right (m : List Bool) : select m ([] : List α) = [] := by cases m <;> rfl
@[simp] theorem select_true_cons (m : List Bool) (x : α) (xs : List α) :
    select (true :: m) (x :: xs) = x :: select m xs := rfl
@[simp] theorem select_false_cons (m : List Bool) (x : α) (xs : List α) :
    select (false :: m) (x :: xs) = select m xs := rfl

@[simp] theorem countTrue_nil : countTrue [] = 0 := rfl
@[simp] theorem countTrue_true_cons (m : List Bool) : countTrue (true :: m) = countTrue m + 1 := rfl
@[simp] theorem countTrue_false_cons (m : List Bool) : countTrue (false :: m) = countTrue m := rfl

theorem select_sublist : ∀ (m : List Bool) (xs : List α), (select m xs).Sublist xs
  | [], _ | _ :: _, [] => by simp
  | true :: m, x :: xs => (select_sublist m xs).cons_cons x
  | false :: m, x :: xs => (select_sublist m xs).cons x

theorem mem_of_mem_select {α : Type} {m : List Bool} {xs : List α} {x : α} (h : x ∈ select m xs) : x ∈ xs :=
  (select_sublist m xs).subset h

theorem length_select : ∀ (m : List Bool) (xs : List α), m.length ≤ xs.length →
    (select m xs).length = countTrue m
  | [], _, _ => by simp
  | true :: m, _ :: xs, h | false :: m, _ :: xs, h => by
    simp [length_select m xs (Nat.le_of_succ_le_succ h)]

theorem select_append_left : ∀ (m : List Bool) (xs ys : List α), m.length ≤ xs.length →
    select m (xs ++ ys) = select m xs
  | [], _, _, _ => by simp
  | true :: m, _ :: xs, ys, h | false :: m, _ :: xs, ys, h => by
    simp [select_append_left m xs ys (Nat.le_of_succ_le_succ h)]

theorem select_replicate_false : ∀ (k : Nat) (xs : List α), select (List.replicate k false) xs = []
  | 0, _ | _ + 1, [] => by simp
  | k + 1, _ :: xs => by simp [List.replicate_succ, select_replicate_false k xs]

theorem select_append_replicate_false (k : Nat) : ∀ (m : List Bool) (xs : List α),
    select (m ++ List.replicate k false) xs = select m xs
  | [], xs => by simp [select_replicate_false]
  | _ :: _, [] => by simp
  | true :: m, _ :: xs | false :: m, _ :: xs => by simp [select_append_replicate_false k m xs]

end select

/-- the shape shared by `acceptMask` and `rejectMask`: each weight is tested against its uniform, a missing uniform
    reading as NaN -/
def testMask (f : EV → EV → Bool) : List EV → List EV → List Bool
  | [], _ => []
  | w :: ws, us => f w (us.headD .nan) :: testMask f ws us.tail

theorem acceptMask_eq_testMask (c : EV) : ∀ lws us, acceptMask lws c us = testMask (acceptFlow · c) lws us
  | [], _ => rfl
  | _ :: ws, us => congrArg _ (acceptMask_eq_testMask c ws us.tail)

theorem rejectMask_eq_testMask (c : EV) : ∀ lws us, rejectMask lws c us = testMask (acceptRej · c) lws us
  | [], _ => rfl
  | _ :: ws, us => congrArg _ (rejectMask_eq_testMask c ws us.tail)

theorem length_testMask (f : EV → EV → Bool) : ∀ ws us, (testMask f ws us).length = ws.length
  | [], _ => rfl
  | _ :: ws, us => congrArg (· + 1) (length_testMask f ws us.tail)

theorem mem_select_testMask {α : Type} (f : EV → EV → Bool) (g : α → EV) {x : α} :
    ∀ (xs : List α) (us : List EV), x ∈ select (testMask f (xs.map g) us) xs → ∃ u, f (g x) u = true
  | [], _, h => by simp at h
  | y :: ys, us, h => by
    rw [List.map_cons, testMask] at h
    cases hy : f (g y) (us.headD .nan) <;> rw [hy] at h
    · exact mem_select_testMask f g ys us.tail h
    · rcases List.mem_cons.1 h with rfl | h
      · exact ⟨_, hy⟩
      · exact mem_select_testMask f g ys us.tail h

theorem testMask_eq_zipWith {f : EV → EV → Bool} (hf : ∀ w, f w .nan = false) :
    ∀ ws us, testMask f ws us = List.zipWith f ws us ++ List.replicate (ws.length - us.length) false
  | [], _ => by simp [testMask]
  | w :: ws, [] => by simp [testMask, hf, testMask_eq_zipWith hf ws [], List.replicate_succ]
  | w :: ws, u :: us => by simp [testMask, testMask_eq_zipWith hf ws us]

theorem length_acceptMask (lws : List EV) (c : EV) (us : List EV) : (acceptMask lws c us).length = lws.length := by
  rw [acceptMask_eq_testMask, length_testMask]

theorem length_rejectMask : ∀ (lws : List EV) (c : EV) (us : List EV), (rejectMask lws c us).length = lws.length :=
  fun _ _ _ => by rw [rejectMask_eq_testMask, length_testMask]

theorem mem_select_acceptMask {α : Type} (f : α → EV) {m : EV} {xs : List α} {us : List EV} {x : α}
    (h : x ∈ select (acceptMask (xs.map f) m us) xs) : ∃ u, acceptFlow (f x) m u = true :=
  mem_select_testMask (acceptFlow · m) f xs us (acceptMask_eq_testMask m _ us ▸ h)

theorem mem_select_rejectMask {α : Type} (f : α → EV) {m : EV} {xs : List α} {us : List EV} {x : α}
    (h : x ∈ select (rejectMask (xs.map f) m us) xs) : ∃ u, acceptRej (f x) m u = true :=
  mem_select_testMask (acceptRej · m) f xs us (rejectMask_eq_testMask m _ us ▸ h)

theorem plainAccepted_spec {t : Option EV} {b : List Cand} {u : List EV} {c : Cand}
    (h : c ∈ plainAccepted t b u) :
    c ∈ survivors t b ∧ ∃ m lu, acceptFlow (logWeight c) m lu = true := by
  unfold plainAccepted logWeights at h
  exact ⟨mem_of_mem_select h, _, mem_select_acceptMask logWeight h⟩

end NessaiVerif.Pool
