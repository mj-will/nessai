import NessaiVerif.Model.FlowAlgebra
import Mathlib.Algebra.Group.Basic
/-
C08 — with rescaling on, `FlowProposal`'s passes are the `NFlow` operations of the one flow with transform `R.comp f.T`
(`fpForwardPass_true`, `fpBackwardPass_true`), and pointwise round trips compose (`RoundTripAt.comp`); so the single density law
`NFlowM.forwardAndLogProb_sample` serves `NFlow`, `FlowModel` and `FlowProposal` alike.
-/
namespace NessaiVerif.Flow
variable {X Y Z L : Type}

section RoundTrip
variable [Neg L] {t : Transform X Z L}

theorem RoundTripAt.eq {z : Z} (h : RoundTripAt t z) : t.fwd (t.inv z).1 = (z, -(t.inv z).2) := h

theorem Lawful.roundTripAt (h : Lawful t) (z : Z) : RoundTripAt t z := h.2 z

theorem Lawful.inv_fwd (h : Lawful t) (x : X) : (t.inv (t.fwd x).1).1 = x := congrArg Prod.fst (h.1 x)

theorem Lawful.fwd_inv (h : Lawful t) (z : Z) : (t.fwd (t.inv z).1).1 = z := congrArg Prod.fst (h.2 z)

theorem Lawful.left_inverse_unique (h : Lawful t) {g : Z → X} (hg : ∀ x, g (t.fwd x).1 = x) (z : Z) :
    g z = (t.inv z).1 := by
  rw [← hg (t.inv z).1, h.fwd_inv]

end RoundTrip

variable [AddCommGroup L]

theorem RoundTripAt.comp {t1 : Transform X Y L} {t2 : Transform Y Z L} {z : Z}
    (h2 : RoundTripAt t2 z) (h1 : RoundTripAt t1 (t2.inv z).1) : RoundTripAt (t1.comp t2) z := by
  simp only [RoundTripAt, Transform.comp, h1.eq, h2.eq, neg_add_rev]

/- `comp` is symmetric under exchanging `fwd` and `inv`, so the first half of `Lawful` is `RoundTripAt.comp` for the
exchanged transforms. -/
theorem Lawful.comp {t1 : Transform X Y L} {t2 : Transform Y Z L} (h1 : Lawful t1) (h2 : Lawful t2) :
    Lawful (t1.comp t2) :=
  ⟨fun x => RoundTripAt.comp (t1 := ⟨t2.inv, t2.fwd⟩) (t2 := ⟨t1.inv, t1.fwd⟩) (h1.1 x) (h2.1 _),
   fun z => RoundTripAt.comp (h2.2 z) (h1.2 _)⟩

/-- `Lawful` does not tie the reported log-Jacobian to the map, so any constant `±c` may stand in its place.  For `LULinear`,
which reports `Σ lg ud` itself and not the sum of what its two triangular factors report. -/
theorem Lawful.constJ {t : Transform X Z L} (h : Lawful t) (c : L) :
    Lawful (⟨fun x => ((t.fwd x).1, c), fun z => ((t.inv z).1, -c)⟩ : Transform X Z L) :=
  ⟨fun x => Prod.ext (h.inv_fwd x) rfl, fun z => Prod.ext (h.fwd_inv z) (neg_neg c).symm⟩

theorem cascade_nil (x : X) : cascade ([] : List (X → X × L)) x = (x, 0) := rfl

theorem cascade_foldl (fs : List (X → X × L)) (x : X) (l : L) :
    fs.foldl (fun acc f => ((f acc.1).1, acc.2 + (f acc.1).2)) (x, l) = ((cascade fs x).1, l + (cascade fs x).2) := by
  induction fs generalizing x l with
  | nil => exact Prod.ext rfl (add_zero l).symm
  | cons f fs ih =>
    unfold cascade
    rw [List.foldl_cons, List.foldl_cons, ih, ih _ (0 + _), zero_add, add_assoc]

theorem cascade_append (fs gs : List (X → X × L)) (x : X) :
    cascade (fs ++ gs) x = ((cascade gs (cascade fs x).1).1, (cascade fs x).2 + (cascade gs (cascade fs x).1).2) := by
  rw [cascade, List.foldl_append]
  exact cascade_foldl gs _ _

theorem cascade_single (f : X → X × L) (x : X) : cascade [f] x = f x :=
  Prod.ext rfl (zero_add _)

theorem cascade_cons (f : X → X × L) (fs : List (X → X × L)) (x : X) :
    cascade (f :: fs) x = ((cascade fs (f x).1).1, (f x).2 + (cascade fs (f x).1).2) := by
  rw [← List.singleton_append, cascade_append, cascade_single]

theorem composite_cons (t : Transform X X L) (ts : List (Transform X X L)) :
    composite (t :: ts) = t.comp (composite ts) := by
  unfold composite Transform.comp
  congr 1
  · funext x
    rw [List.map_cons, cascade_cons]
  · funext z
    rw [List.reverse_cons, List.map_append, cascade_append, List.map_singleton, cascade_single]

theorem NFlowM.forwardAndLogProb_sample (f : NFlowM X Z L) {z : Z} (h : RoundTripAt f.T z) :
    f.forwardAndLogProb (f.sampleAndLogProb z).1 = (z, (f.sampleAndLogProb z).2) := by
  simp only [forwardAndLogProb, forward, baseLogProb, sampleAndLogProb, h.eq, sub_eq_add_neg]

theorem fmSampleAndLogProb_alt (f : NFlowM X Z L) (noise z : Z) (alt : Z → L) :
    fmSampleAndLogProb f noise (some z) (some alt)
      = ((f.sampleAndLogProb z).1, alt z + ((f.sampleAndLogProb z).2 - f.base z)) :=
  Prod.ext rfl (by
    show alt z - (f.T.inv z).2 = alt z + (f.base z - (f.T.inv z).2 - f.base z)
    rw [sub_sub_cancel_left, sub_eq_add_neg])

theorem fpForwardPass_false (f : NFlowM X Z L) (R : Transform X X L) (x : X) :
    fpForwardPass f R false x = f.forwardAndLogProb x :=
  Prod.ext rfl (add_zero _)

theorem fpForwardPass_true (f : NFlowM X Z L) (R : Transform X X L) (x : X) :
    fpForwardPass f R true x = (NFlowM.mk (R.comp f.T) f.base).forwardAndLogProb x :=
  Prod.ext rfl (by
    show f.base (f.T.fwd (R.fwd x).1).1 + (f.T.fwd (R.fwd x).1).2 + (0 + (R.fwd x).2)
      = f.base (f.T.fwd (R.fwd x).1).1 + ((R.fwd x).2 + (f.T.fwd (R.fwd x).1).2)
    rw [zero_add, add_assoc, add_comm (R.fwd x).2])

theorem fpBackwardPass_true (f : NFlowM X Z L) (R : Transform X X L) (alt : Option (Z → L)) (z : Z) :
    fpBackwardPass f R alt true z = fmSampleAndLogProb ⟨R.comp f.T, f.base⟩ z (some z) alt :=
  Prod.ext rfl (sub_sub _ _ _)

theorem fpBackwardPass_alt (f : NFlowM X Z L) (R : Transform X X L) (rescale : Bool) (z : Z) (alt : Z → L) :
    fpBackwardPass f R (some alt) rescale z
      = ((fpBackwardPass f R none rescale z).1, alt z + ((fpBackwardPass f R none rescale z).2 - f.base z)) := by
  cases rescale
  · exact fmSampleAndLogProb_alt f z z alt
  · rw [fpBackwardPass_true, fpBackwardPass_true]
    exact fmSampleAndLogProb_alt ⟨R.comp f.T, f.base⟩ z z alt

theorem ifpDraw_eq_some {fs : List (NFlowM X Z L)} {R : Transform X X L} {clip : X → X} {i : Nat} {noise : Z}
    {x : X} {row : List L} :
    ifpDraw fs R clip i noise = some (x, row) ↔
      ∃ fi, fs[i]? = some fi ∧ clip (R.inv (fi.sample noise)).1 = x ∧
        ifpLogQRow fs (fi.sample noise) (R.fwd (clip (R.inv (fi.sample noise)).1)).2 = row := by
  simp only [ifpDraw, ifmSampleIth, Option.map_map, Option.map_eq_some_iff, Function.comp_apply, Prod.mk.injEq]

theorem ifpLogQRow_getElem?_succ (fs : List (NFlowM X Z L)) (x' : X) (logj : L) (i : Nat) :
    (ifpLogQRow fs x' logj)[i + 1]? = (ifmLogProbIth fs x' i).map (· + logj) := by
  simp only [ifpLogQRow, ifmLogProbAll, ifmLogProbIth, List.getElem?_cons_succ, List.getElem?_map]

end NessaiVerif.Flow
