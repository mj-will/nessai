import NessaiVerif.Model.MetaProposal
import Mathlib.Algebra.Order.Field.Basic
import Mathlib.Algebra.CharZero.Defs
import Mathlib.Tactic.FieldSimp
import Mathlib.Tactic.Ring
/- C03: `MetaInv` (every stored sample holds its full density row, `Q = mix w row` and `W = U / Q` under the CURRENT weights
`count_k / total`) survives an iteration because every stored `Q` and `W` is recomputed from the extended row under the new
weights (`upd`, `store_step`); nothing is carried over from the old weights.  Any field of characteristic zero. -/
namespace NessaiVerif.Meta

variable {K : Type}

/-- density row of sample `id` for `np` proposals under the density table `D id k = q_{k-1}(x_id)` -/
def rowOf (D : Nat → Nat → K) (np : Nat) (id : Nat) : List K := (List.range np).map (D id)

theorem rowOf_length (D : Nat → Nat → K) (np id : Nat) : (rowOf D np id).length = np := by simp [rowOf]

theorem rowOf_succ (D : Nat → Nat → K) (np id : Nat) : rowOf D (np + 1) id = rowOf D np id ++ [D id np] := by
  simp [rowOf, List.range_succ]

variable [Field K]

theorem sumK_map_div (cs : List Nat) (n : K) :
    sumK (cs.map (fun (c : Nat) => ((c : K) / n : K))) = ((cs.sum : Nat) : K) / n := by
  induction cs with
  | nil => simp [sumK]
  | cons c cs ih => simp [sumK, ih, add_div]

theorem sumK_map_div_eq_one_iff [CharZero K] (cs : List Nat) (n : Nat) (hn : n ≠ 0) :
    sumK (cs.map (fun (c : Nat) => ((c : K) / (n : K) : K))) = 1 ↔ cs.sum = n := by
  rw [sumK_map_div]
  have hn' : (n : K) ≠ 0 := Nat.cast_ne_zero.mpr hn
  rw [div_eq_one_iff_eq hn']
  exact Nat.cast_inj

/-- the fractions `count_k / total` sum to one (that the stored weights ARE these fractions is `MetaInv.weights`) -/
theorem weights_sum_one [CharZero K] (cs : List Nat) (h : cs.sum ≠ 0) :
    sumK (cs.map (fun (c : Nat) => ((c : K) / ((cs.sum : Nat) : K) : K))) = 1 :=
  (sumK_map_div_eq_one_iff cs cs.sum h).mpr rfl

theorem mix_append_singleton (w row : List K) (wl ql : K) (h : w.length = row.length) :
    mix (w ++ [wl]) (row ++ [ql]) = mix w row + wl * ql := by
  induction w generalizing row with
  | nil =>
    obtain rfl : row = [] := List.length_eq_zero_iff.mp h.symm
    simp [mix]
  | cons a w ih =>
    cases row with
    | nil => simp at h
    | cons b row =>
      simp only [List.cons_append, mix, ih row (Nat.succ.inj h), add_assoc]

theorem mix_nonneg [LinearOrder K] [IsStrictOrderedRing K] : ∀ (w row : List K),
    (∀ x ∈ w, 0 ≤ x) → (∀ x ∈ row, 0 ≤ x) → 0 ≤ mix w row
  | [], _, _, _ => le_rfl
  | _ :: _, [], _, _ => le_rfl
  | a :: w, b :: row, hw, hq =>
    add_nonneg (mul_nonneg (hw a List.mem_cons_self) (hq b List.mem_cons_self))
      (mix_nonneg w row (fun x hx => hw x (List.mem_cons_of_mem _ hx))
        (fun x hx => hq x (List.mem_cons_of_mem _ hx)))

/-- what "exact meta-proposal density and weight" means for one stored sample -/
structure SampleOk (D : Nat → Nat → K) (w : List K) (m : MS K) : Prop where
  row : m.row = rowOf D w.length m.id
  Q : m.Q = mix w m.row
  W : m.W = m.U / m.Q

/-- what `newSample` (`ImportanceFlowProposal.draw`) stores for a drawn `(id, U, density row)` whose row has `w`'s length -/
def mkNew (w : List K) (it : Int) (x : Nat × K × List K) : MS K :=
  { id := x.1, it := it, U := x.2.1, row := x.2.2, Q := mix w x.2.2, W := x.2.1 / mix w x.2.2 }

/-- what `updateSample` (`update_log_q`, then `logQ` and `logW` recomputed) makes of a stored sample when the new
proposal's density at sample `id` is `f id` -/
def upd (w : List K) (f : Nat → K) (m : MS K) : MS K :=
  { m with row := m.row ++ [f m.id], Q := mix w (m.row ++ [f m.id]), W := m.U / mix w (m.row ++ [f m.id]) }

theorem newSamples_eq (w : List K) (it : Int) (new : List (Nat × K × List K))
    (h : ∀ x ∈ new, x.2.2.length = w.length) : newSamples w it new = .ok (new.map (mkNew w it)) := by
  induction new with
  | nil => simp [newSamples]
  | cons x xs ih =>
    obtain ⟨id, U, row⟩ := x
    have hx : row.length = w.length := h (id, U, row) (by simp)
    simp [newSamples, newSample, hx, ih (fun y hy => h y (by simp [hy])), mkNew]

theorem updateStore_eq (w : List K) (col : List (Nat × K)) (f : Nat → K) (store : List (MS K))
    (h : ∀ m ∈ store, lookup col m.id = some (f m.id) ∧ m.row.length + 1 = w.length) :
    updateStore w col store = .ok (store.map (upd w f)) := by
  induction store with
  | nil => simp [updateStore]
  | cons m ms ih =>
    have hm := h m (by simp)
    simp [updateStore, hm.1, updateSample, hm.2, ih (fun y hy => h y (by simp [hy])), upd]

theorem sampleOk_upd {D : Nat → Nat → K} {w w' : List K} {m : MS K} (hm : SampleOk D w m)
    (hw : w'.length = w.length + 1) : SampleOk D w' (upd w' (fun id => D id w.length) m) := by
  refine ⟨?_, rfl, rfl⟩
  simp only [upd]
  rw [hw, rowOf_succ, hm.row]

/-- one store (the training or the independent set) through `add_and_update_points` -/
theorem store_step {D : Nat → Nat → K} {w w' : List K} (hw' : w'.length = w.length + 1)
    {store : List (MS K)} (hstore : ∀ m ∈ store, SampleOk D w m)
    (it : Int) {new : List (Nat × K × List K)} (hnew : ∀ x ∈ new, x.2.2 = rowOf D w'.length x.1)
    {col : List (Nat × K)} (hcol : ∀ m ∈ store, lookup col m.id = some (D m.id w.length)) :
    ∃ ns tr, newSamples w' it new = .ok ns ∧ updateStore w' col store = .ok tr ∧
      (∀ m ∈ tr ++ ns, SampleOk D w' m) ∧ (tr ++ ns).length = store.length + new.length ∧
      (tr ++ ns).map (·.it) = store.map (·.it) ++ List.replicate new.length it := by
  refine ⟨_, _, newSamples_eq w' it new (fun x hx => by rw [hnew x hx, rowOf_length]),
    updateStore_eq w' col (fun id => D id w.length) store (fun m hm => ⟨hcol m hm, by
      rw [(hstore m hm).row, rowOf_length, hw']⟩), ?_, by simp, ?_⟩
  · intro m hm
    rcases List.mem_append.mp hm with hm | hm
    · obtain ⟨m0, hm0, rfl⟩ := List.mem_map.mp hm
      exact sampleOk_upd (hstore m0 hm0) hw'
    · obtain ⟨x, hx, rfl⟩ := List.mem_map.mp hm
      exact ⟨hnew x hx, rfl, rfl⟩
  · rw [List.map_append, List.map_map, List.map_map]
    congr 1
    exact List.eq_replicate_iff.mpr ⟨by simp, fun b hb => by obtain ⟨x, _, rfl⟩ := List.mem_map.mp hb; rfl⟩

/-- The bookkeeping invariant at an iteration boundary. -/
structure MetaInv (D : Nat → Nat → K) (s : St K) : Prop where
  wlen : s.weights.length = s.counts.length
  total : s.counts.sum = refSize s
  nonempty : s.counts.sum ≠ 0
  weights : s.weights = s.counts.map (fun (c : Nat) => ((c : K) / ((s.counts.sum : Nat) : K) : K))
  train : ∀ m ∈ s.train, SampleOk D s.weights m
  iid : ∀ m ∈ s.iid, SampleOk D s.weights m
  sizes : s.useIid = true → s.train.length = s.iid.length
  noIid : s.useIid = false → s.iid = []

/-- inputs of one iteration that are consistent with the density table -/
structure IterOk (D : Nat → Nat → K) (s : St K) (nAdd : Nat)
    (newT : List (Nat × K × List K)) (colT : List (Nat × K))
    (newI : List (Nat × K × List K)) (colI : List (Nat × K)) : Prop where
  newT_row : ∀ x ∈ newT, x.2.2 = rowOf D (s.counts.length + 1) x.1
  newT_len : newT.length = nAdd
  colT : ∀ m ∈ s.train, lookup colT m.id = some (D m.id s.counts.length)
  newI_row : s.useIid = true → ∀ x ∈ newI, x.2.2 = rowOf D (s.counts.length + 1) x.1
  newI_len : s.useIid = true → newI.length = nAdd
  colI : s.useIid = true → ∀ m ∈ s.iid, lookup colI m.id = some (D m.id s.counts.length)

theorem MetaInv.length_ne_zero {D : Nat → Nat → K} {s : St K} (h : MetaInv D s) : s.counts.length ≠ 0 :=
  fun h0 => h.nonempty (by rw [List.length_eq_zero_iff.mp h0]; rfl)

variable [CharZero K] [DecidableEq K]

/-- `counts` index `k + 1` belongs to proposal `k`, so the next proposal is `j = counts.length - 1`: the one `j` for which
`addProposalWeight` appends (a smaller `j` overwrites a zero count or raises, a larger one leaves a gap and raises). -/
theorem addProposalWeight_ok {D : Nat → Nat → K} {s : St K} (h : MetaInv D s) (nAdd : Nat) :
    addProposalWeight s (s.counts.length - 1) nAdd =
      .ok { s with counts := s.counts ++ [nAdd],
                   weights := (s.counts ++ [nAdd]).map
                     (fun (c : Nat) => ((c : K) / (((s.counts ++ [nAdd]).sum : Nat) : K) : K)) } := by
  have hlen := h.length_ne_zero
  have hj : s.counts.length - 1 + 1 = s.counts.length := by omega
  unfold addProposalWeight
  simp only [hj, Nat.lt_irrefl, false_and, if_false, gt_iff_lt]
  -- the source divides by `n_total = len(samples_unit) + n_new`, not by the sum of the counts: `MetaInv.total` makes the two
  -- equal, and that is why the sum-to-one check of `update_proposal_weights` passes
  have hsum : (s.counts ++ [nAdd]).sum = refSize s + nAdd := by simp [h.total]
  have hne : refSize s + nAdd ≠ 0 := by have := h.nonempty; rw [h.total] at this; omega
  have hchk := (sumK_map_div_eq_one_iff (K := K) (s.counts ++ [nAdd]) (refSize s + nAdd) hne).mpr hsum
  rw [if_pos hchk, hsum]

theorem iteration_ok {D : Nat → Nat → K} {s : St K} (h : MetaInv D s) {nAdd : Nat}
    {newT : List (Nat × K × List K)} {colT : List (Nat × K)}
    {newI : List (Nat × K × List K)} {colI : List (Nat × K)}
    (hin : IterOk D s nAdd newT colT newI colI) :
    ∃ s', iteration s (s.counts.length - 1) nAdd newT colT newI colI = .ok s' ∧ MetaInv D s' ∧
      s'.counts = s.counts ++ [nAdd] ∧ s'.train.length = s.train.length + nAdd ∧
      (s.useIid = true → s'.iid.length = s.iid.length + nAdd) ∧ s'.useIid = s.useIid ∧
      s'.train.map (·.it) = s.train.map (·.it) ++ List.replicate nAdd ((s.counts.length - 1 : Nat) : Int) ∧
      (s.useIid = true →
        s'.iid.map (·.it) = s.iid.map (·.it) ++ List.replicate nAdd ((s.counts.length - 1 : Nat) : Int)) := by
  -- `w'` are the weights `addProposalWeight` leaves; each store then goes through `store_step` under the same `w'`
  -- (the independent set only when `useIid`), and the fields of `MetaInv` are read off the two results.
  generalize hw' : (s.counts ++ [nAdd]).map
      (fun (c : Nat) => ((c : K) / (((s.counts ++ [nAdd]).sum : Nat) : K) : K)) = w'
  have hwl : w'.length = (s.counts ++ [nAdd]).length := by rw [← hw', List.length_map]
  have hlen : w'.length = s.weights.length + 1 := by rw [hwl, h.wlen, List.length_append]; rfl
  have hsum : (s.counts ++ [nAdd]).sum = s.counts.sum + nAdd := by simp
  have hne : (s.counts ++ [nAdd]).sum ≠ 0 := by have := h.nonempty; omega
  obtain ⟨nsT, trT, hnT, huT, hokT, hlT, hitT⟩ := store_step hlen h.train ((s.counts.length - 1 : Nat) : Int)
    (by rw [hlen, h.wlen]; exact hin.newT_row) (by rw [h.wlen]; exact hin.colT)
  rw [hin.newT_len] at hlT hitT
  unfold iteration
  rw [addProposalWeight_ok h nAdd, hw']
  simp only [addAndUpdateTrain, hnT, huT]
  cases hiid : s.useIid with
  | false =>
    have hnil := h.noIid hiid
    refine ⟨_, if_neg (by simp), ?_, rfl, hlT, by simp, rfl, hitT, by simp⟩
    exact { wlen := hwl, total := by simp [refSize, hiid, hsum, h.total, hlT], nonempty := hne,
            weights := hw'.symm, train := hokT, iid := by simp [hnil], sizes := by simp,
            noIid := fun _ => hnil }
  | true =>
    obtain ⟨nsI, trI, hnI, huI, hokI, hlI, hitI⟩ := store_step hlen h.iid ((s.counts.length - 1 : Nat) : Int)
      (by rw [hlen, h.wlen]; exact hin.newI_row hiid) (by rw [h.wlen]; exact hin.colI hiid)
    rw [hin.newI_len hiid] at hlI hitI
    simp only [if_true, addAndUpdateIid, hnI, huI]
    refine ⟨_, rfl, ?_, rfl, hlT, fun _ => hlI, rfl, hitT, fun _ => hitI⟩
    exact { wlen := hwl, total := by simp [refSize, hiid, hsum, h.total, hlI], nonempty := hne,
            weights := hw'.symm, train := hokT, iid := hokI,
            sizes := fun _ => by simp only [hlT, hlI, h.sizes hiid],
            noIid := fun hf => by simp at hf }

theorem post_of_ok {ε α : Type} {x : Except ε α} {P : α → Prop} (h : ∃ a, x = .ok a ∧ P a)
    {b : α} (hb : x = .ok b) : P b := by
  obtain ⟨a, ha, hP⟩ := h
  cases ha.symm.trans hb
  exact hP

end NessaiVerif.Meta
