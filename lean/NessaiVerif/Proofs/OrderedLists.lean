import NessaiVerif.Model.OrderedSamples
import NessaiVerif.Proofs.MergeInsert
import NessaiVerif.Proofs.Np
/- Each list program inside the operations of `OrderedSamples` is a familiar list operation: `np.insert` at `searchsorted`
positions is a merge (`insert_eq_merge`, `addToNested_eq_merge`), `indices + arange` are the `true` slots of the merge script
(`truePos_script`), and on a sorted array the threshold count cuts at `filter` / `filter not` (`take_drop_countBelow`). -/
namespace NessaiVerif.Ordered
open NessaiVerif.Np

def StrictInc (l : List Nat) : Prop := l.Pairwise (· < ·)
abbrev SortedS (l : List Smp) : Prop := SortedK Smp.key l

theorem pairwise_map_getD {α : Type} {R : α → α → Prop} (L : List α) (d : α) (hL : L.Pairwise R)
    (l : List Nat) (hl : StrictInc l) (hb : ∀ i ∈ l, i < L.length) :
    (l.map (fun i => L.getD i d)).Pairwise R := by
  rw [List.pairwise_map]
  refine (List.Pairwise.and_mem.mp hl).imp ?_
  rintro i j ⟨hi, hj, hij⟩
  have hjL := hb j hj
  simpa [List.getD_eq_getElem?_getD, hjL, Nat.lt_trans hij hjL] using
    List.pairwise_iff_getElem.mp hL i j (Nat.lt_trans hij hjL) hjL hij

theorem map_getD_range' {α : Type} (L : List α) (d : α) (a k : Nat) (h : a + k ≤ L.length) :
    (List.range' a k).map (fun i => L.getD i d) = (L.drop a).take k := by
  induction k generalizing a with
  | zero => rfl
  | succ k ih =>
    have ha : a < L.length := by omega
    rw [List.range'_succ, List.map_cons, ih (a + 1) (by omega), List.drop_eq_getElem_cons ha,
      List.take_succ_cons, List.getD_eq_getElem?_getD, List.getElem?_eq_getElem ha]
    rfl

theorem map_getD_range {α : Type} (l : List α) (d : α) :
    (List.range l.length).map (fun i => l.getD i d) = l := by
  rw [List.range_eq_range', map_getD_range' l d 0 _ (Nat.le_of_eq (Nat.zero_add _)), List.drop_zero, List.take_length]

theorem leSmp_iff (a b : Smp) : leSmp a b = true ↔ a.key < b.key ∨ (a.key = b.key ∧ a.id ≤ b.id) := by
  simp only [leSmp, Bool.or_eq_true, Bool.and_eq_true, decide_eq_true_eq, beq_iff_eq]

theorem leSmp_trans (a b c : Smp) : leSmp a b = true → leSmp b c = true → leSmp a c = true := by
  simp only [leSmp_iff]; omega

theorem leSmp_total (a b : Smp) : leSmp a b = true ∨ leSmp b a = true := by
  simp only [leSmp_iff]; omega

theorem leSmp_key (a b : Smp) (h : leSmp a b = true) : ¬ b.key < a.key := by
  simp only [leSmp_iff] at h; omega

theorem insSorted_eq (x : Smp × Nat) (l : List (Smp × Nat)) :
    insSorted x l = l.takeWhile (fun y => !leSmp x.1 y.1) ++ x :: l.dropWhile (fun y => !leSmp x.1 y.1) := by
  induction l with
  | nil => rfl
  | cons y ys ih => cases h : leSmp x.1 y.1 <;> simp [insSorted, h, ih]

theorem insSorted_perm (x : Smp × Nat) (l : List (Smp × Nat)) : (insSorted x l).Perm (x :: l) :=
  insSorted_eq x l ▸ perm_insert_takeWhile _ x l

theorem insSorted_sorted (x : Smp × Nat) (l : List (Smp × Nat))
    (h : l.Pairwise (fun a b => leSmp a.1 b.1 = true)) :
    (insSorted x l).Pairwise (fun a b => leSmp a.1 b.1 = true) := by
  rw [insSorted_eq]
  exact pairwise_insert_takeWhile (fun h1 h2 => leSmp_trans _ _ _ h1 h2)
    (fun y hy => (leSmp_total x.1 y.1).resolve_left (by simpa using hy)) (fun y hy => by simpa using hy) h

theorem sortBatch_perm (b : List (Smp × Nat)) : (sortBatch b).Perm b := by
  unfold sortBatch
  induction b with
  | nil => simp
  | cons x xs ih => exact (insSorted_perm x _).trans (List.Perm.cons x ih)

theorem sortBatch_length (b : List (Smp × Nat)) : (sortBatch b).length = b.length :=
  (sortBatch_perm b).length_eq

theorem sortBatch_rows (r : Smp → Nat) (b : List (Smp × Nat)) (hb : ∀ x ∈ b, x.2 = r x.1) :
    (sortBatch b).map (·.2) = ((sortBatch b).map (·.1)).map r := by
  rw [List.map_map]
  exact List.map_congr_left fun x hx => hb x ((sortBatch_perm b).mem_iff.mp hx)

theorem sortBatch_pairwise (b : List (Smp × Nat)) : (sortBatch b).Pairwise (fun a b => leSmp a.1 b.1 = true) := by
  unfold sortBatch
  induction b with
  | nil => simp
  | cons x xs ih => exact insSorted_sorted x _ ih

theorem sortBatch_sorted (b : List (Smp × Nat)) : SortedS ((sortBatch b).map (·.1)) :=
  List.pairwise_map.mpr ((sortBatch_pairwise b).imp fun h => leSmp_key _ _ h)

theorem ssl_mono (a : List Int) (v w : Int) (h : v ≤ w) : ssl a v ≤ ssl a w := by
  induction a with
  | nil => exact Nat.le_refl _
  | cons x xs ih =>
    by_cases hv : x < v
    · rw [ssl_cons_of_lt _ _ hv, ssl_cons_of_lt _ _ (by omega)]; exact Nat.succ_le_succ ih
    · rw [ssl_cons_of_not_lt _ _ hv]; exact Nat.zero_le _

/-- `np.searchsorted(self.samples["logL"], samples["logL"])` in `add_samples` -/
abbrev batchIdx (old new : List Smp) : List Nat := new.map (fun v => ssl (keys old) v.key)

theorem batchIdx_mono (old new : List Smp) (hn : SortedS new) : (batchIdx old new).Pairwise (· ≤ ·) := by
  unfold batchIdx
  rw [List.pairwise_map]
  exact hn.imp (fun {a b} h => ssl_mono _ _ _ (by omega))

theorem batchIdx_bound (old new : List Smp) : ∀ i ∈ batchIdx old new, i ≤ old.length := by
  intro i hi
  obtain ⟨v, _, rfl⟩ := List.mem_map.mp hi
  have := ssl_le_length (keys old) v.key
  rwa [keys, List.length_map] at this

theorem insert_eq_merge (old new : List Smp) (ho : SortedS old) :
    insertMany old (batchIdx old new) new 0 = mergeNew Smp.key old new := by
  have := insertMany_ssl_eq_merge0 ordLaws_int Smp.key old new ho
  simpa [batchIdx, keys] using this

theorem merge_batch_perm (old : List Smp) (b : List (Smp × Nat)) :
    (mergeNew Smp.key old ((sortBatch b).map (·.1))).Perm (old ++ b.map (·.1)) :=
  (mergeNew_perm _ _ _).trans (((sortBatch_perm b).map _).append_left _)

theorem shiftIdx_length (idx : List Nat) (k : Nat) : (shiftIdx idx k).length = idx.length := by
  induction idx generalizing k with
  | nil => simp [shiftIdx]
  | cons i is ih => simp [shiftIdx, ih]

theorem shiftIdx_isEmpty (idx : List Nat) (k : Nat) : (shiftIdx idx k).isEmpty = idx.isEmpty := by
  cases idx <;> simp [shiftIdx]

/-- `new_indices = indices + np.arange(len(indices))` of `add_samples` (`shiftIdx`) are exactly the `true` slots of the merge
script.  With `pos` old elements consumed and `k` values placed the next output slot is `pos + k`; a value is placed when its
index equals `pos`, so it lands at `i + k`. -/
theorem truePos_script (n : Nat) (idx : List Nat) (pos k : Nat)
    (hmono : idx.Pairwise (· ≤ ·)) (hb : ∀ i ∈ idx, pos ≤ i ∧ i ≤ pos + n) :
    truePos (script n idx pos) (pos + k) = shiftIdx idx k := by
  fun_induction script n idx pos generalizing k with
  | case1 n pos => simp [truePos_replicate_false, shiftIdx]
  | case2 i is pos ih | case3 n i is pos _ ih =>
    -- the next index is due: `i = pos`
    obtain rfl : i = pos := by have := hb i (by simp); omega
    rw [truePos, shiftIdx, Nat.add_assoc, ih (k + 1) hmono.of_cons fun j hj => hb j (by simp [hj])]
  | case4 n i is pos hle ih =>
    rw [truePos, Nat.add_right_comm, ih k hmono fun j hj => by
      have := hb j hj
      have : i ≤ j := by
        rcases List.mem_cons.mp hj with rfl | hj
        · exact Nat.le_refl _
        · exact List.rel_of_pairwise_cons hmono hj
      omega]

/-- where `np.insert` at non-decreasing in-range indices puts things (`np`: the new positions `idx + arange`; `op`: their
complement, the old positions) -/
theorem insertMany_positions {α : Type} (d : α) (a vals : List α) (idx : List Nat) (hlen : vals.length = idx.length)
    (hmono : idx.Pairwise (· ≤ ·)) (hb : ∀ i ∈ idx, i ≤ a.length) :
    let a' := insertMany a idx vals 0
    let np := shiftIdx idx 0
    let op := complement a'.length np
    StrictInc op ∧ StrictInc np ∧ (op ++ np).Perm (List.range a'.length) ∧
    op.map (fun i => a'.getD i d) = a ∧ np.map (fun i => a'.getD i d) = vals := by
  -- in terms of the merge script `t`: the new array is `weave t a vals`, `np = truePos t 0`, `op = falsePos t 0`
  have ht0 := count_script_false a.length idx 0
  have ht1 := (count_script_true a.length idx 0).trans hlen.symm
  have hnp := truePos_script a.length idx 0 0 hmono fun i hi => ⟨Nat.zero_le i, by rw [Nat.zero_add]; exact hb i hi⟩
  dsimp only
  rw [insertMany_eq_weave a idx vals 0 hlen, ← hnp, Nat.zero_add]
  generalize script a.length idx 0 = t at *
  rw [weave_length t a vals ht0 ht1, complement_truePos0, List.range_eq_range']
  exact ⟨falsePos_pairwise t 0, truePos_pairwise t 0, falsePos_append_truePos_perm t 0,
    weave_at_falsePos d t a vals ht0 ht1, weave_at_truePos d t a vals ht0 ht1⟩

theorem strictInc_of_sorted_nodup (l : List Nat) (hs : SortedK (fun i : Nat => i) l) (hn : l.Nodup) :
    StrictInc l :=
  (hs.and hn).imp fun ⟨h1, h2⟩ => by simp only at h1; omega

theorem sortedK_of_strictInc (l : List Nat) (h : StrictInc l) : SortedK (fun i : Nat => i) l :=
  h.imp fun h => by simp only; omega

theorem addToNested_eq_merge (nested idxs : List Nat) (hn : StrictInc nested) :
    addToNested nested idxs = mergeNew (fun i : Nat => i) nested idxs := by
  unfold addToNested
  have := insertMany_ssl_eq_merge0 ordLaws_nat (fun i : Nat => i) nested idxs (sortedK_of_strictInc _ hn)
  simpa using this

theorem addToNested_nil (l : List Nat) : addToNested [] l = l := by
  rw [addToNested_eq_merge _ _ List.Pairwise.nil]; cases l <;> simp [mergeNew]

theorem addToNested_perm (nested idxs : List Nat) (hn : StrictInc nested) :
    (addToNested nested idxs).Perm (nested ++ idxs) := by
  rw [addToNested_eq_merge _ _ hn]; exact mergeNew_perm _ _ _

theorem addToNested_strictInc (nested idxs : List Nat) (hn : StrictInc nested) (hi : StrictInc idxs)
    (hd : (nested ++ idxs).Nodup) : StrictInc (addToNested nested idxs) := by
  apply strictInc_of_sorted_nodup
  · rw [addToNested_eq_merge _ _ hn]
    exact mergeNew_sorted ordLaws_nat _ _ _ (sortedK_of_strictInc _ hn) (sortedK_of_strictInc _ hi)
  · exact (addToNested_perm nested idxs hn).nodup_iff.mpr hd

/-- index lists that partition the old positions `range op.length`, sent to the places `op` of the old elements in the
longer array and joined there by the new positions `np`, partition all positions -/
theorem remap_partition (op np live nested : List Nat) (N : Nat) (hop : StrictInc op) (hnp : StrictInc np)
    (hpos : (op ++ np).Perm (List.range N)) (hl : StrictInc live) (hn : StrictInc nested)
    (hp : (live ++ nested).Perm (List.range op.length)) :
    StrictInc (nested.map (op.getD · 0)) ∧ StrictInc (addToNested (live.map (op.getD · 0)) np) ∧
    (addToNested (live.map (op.getD · 0)) np ++ nested.map (op.getD · 0)).Perm (List.range N) ∧
    (addToNested (live.map (op.getD · 0)) np).Perm (live.map (op.getD · 0) ++ np) := by
  have hb : ∀ i ∈ live ++ nested, i < op.length := fun i hi => List.mem_range.mp (hp.mem_iff.mp hi)
  have hnI := pairwise_map_getD op 0 hop nested hn fun i hi => hb i (by simp [hi])
  have hlI := pairwise_map_getD op 0 hop live hl fun i hi => hb i (by simp [hi])
  have hall : ((live ++ nested).map (op.getD · 0)).Perm op := by
    have := hp.map (op.getD · 0)
    rwa [map_getD_range] at this
  have hbig : (live.map (op.getD · 0) ++ np ++ nested.map (op.getD · 0)).Perm (List.range N) := by
    refine .trans ?_ ((hall.append_right _).trans hpos)
    rw [List.map_append, List.append_assoc, List.append_assoc]
    exact List.Perm.append_left _ List.perm_append_comm
  have hperm := addToNested_perm _ np hlI
  refine ⟨hnI, ?_, (hperm.append_right _).trans hbig, hperm⟩
  exact addToNested_strictInc _ _ hlI hnp (List.nodup_append.mp (hbig.nodup_iff.mpr List.nodup_range)).1

/-- `p` never turns true again after turning false along `l`, so `l` is its `p`-part followed by its `¬p`-part -/
theorem filter_append_filter_not {α : Type} (p : α → Bool) (l : List α)
    (h : l.Pairwise (fun x y => p y = true → p x = true)) :
    l.filter p ++ l.filter (fun x => !p x) = l := by
  induction l with
  | nil => rfl
  | cons x xs ih =>
    obtain ⟨hx, hxs⟩ := List.pairwise_cons.mp h
    cases hpx : p x
    · have hnone : ∀ y ∈ xs, p y = false := fun y hy => by
        cases hpy : p y
        · rfl
        · rw [hx y hy hpy] at hpx; cases hpx
      rw [List.filter_cons_of_neg (by simp [hpx]), List.filter_cons_of_pos (by simp [hpx]),
        List.filter_eq_nil_iff.mpr (fun y hy => by simp [hnone y hy]),
        List.filter_eq_self.mpr (fun y hy => by simp [hnone y hy])]
      rfl
    · rw [List.filter_cons_of_pos hpx, List.filter_cons_of_neg (by simp [hpx]), List.cons_append, ih hxs]

theorem countBelow_keys (t : Int) (L : List Smp) :
    countBelow t (keys L) = (L.filter (fun y => decide (y.key < t))).length := by
  simp [countBelow, keys, List.filter_map, Function.comp_def]

theorem take_drop_countBelow (t : Int) (L : List Smp) (hs : SortedS L) :
    L.take (countBelow t (keys L)) = L.filter (fun y => decide (y.key < t)) ∧
    L.drop (countBelow t (keys L)) = L.filter (fun y => !decide (y.key < t)) := by
  have hsplit := filter_append_filter_not (fun y : Smp => decide (y.key < t)) L
    (hs.imp fun h => by simp only [decide_eq_true_eq]; omega)
  refine List.append_inj ((List.take_append_drop _ L).trans hsplit.symm) ?_
  rw [List.length_take, countBelow_keys]; exact Nat.min_eq_left (List.length_filter_le _ _)

/-- the count `np.count_nonzero(x < thr)` as the operations compute it (`c`: the array is empty) -/
theorem count_eq_some {c : Bool} {thr : Option Int} {ks : List Int} {n : Nat} (hc : c = true → ks = [])
    (h : (if c = true then some 0 else thr.map (countBelow · ks)) = some n) :
    n ≤ ks.length ∧ ∀ t, thr = some t → n = countBelow t ks := by
  split at h
  next hc' =>
    cases h
    rw [hc hc']
    exact ⟨Nat.le_refl _, fun _ _ => rfl⟩
  next =>
    cases thr with
    | none => cases h
    | some t => cases h; exact ⟨List.length_filter_le _ _, fun _ ht => by cases ht; rfl⟩

end NessaiVerif.Ordered
