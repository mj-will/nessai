import NessaiVerif.Proofs.LiveSet
/- C01: on a non-empty live set `consume` is the draw loop followed by a sorted insert into the tail (`consume_cons`); the
loop invariant `Inv` and the facts about runs are proved from that form. -/
namespace NessaiVerif.LiveSet

/-- the state `consume` produces from `s` when the worst point is `w`, the rest of the live set `t`, the accepted
candidate `c` with likelihood `v`, after `count` draws of which `rej` found the pool empty -/
def stepResult (s : St) (w : Pt) (t : List Pt) (c : Cand) (v : Int) (count rej : Nat) : St :=
  let p := mkPt c v (s.iter + 1)
  { s with live := insSorted p t, nested := s.nested ++ [w],
           idx := s.idx ++ [(rankIn p t : Int)], logLmin := some w.logL,
           logLmax := maxL s.logLmax v, iter := s.iter + 1, accepted := s.accepted + 1,
           rejected := s.rejected + rej, lastCount := count, hist := s.hist ++ [p] }

/-- On a live set `w :: t`, `consume` is the draw loop above `w.logL` followed by the update `stepResult`: the filter makes
the accepted point strictly better than `w`, so `insert_live_point` is a sorted insert into `t`. -/
theorem consume_cons {s : St} {w : Pt} {t : List Pt} (hl : s.live = w :: t) (cands : List Cand) :
    consume s cands =
      match consumeLoop (some w.logL) cands 0 0 with
      | none => .error .exhausted
      | some (c, v, count, rej, rest) => .ok (stepResult s w t c v count rej, rest) := by
  unfold consume
  rw [hl]
  dsimp only
  cases hloop : consumeLoop (some w.logL) cands 0 0 with
  | none => rfl
  | some r =>
    obtain ⟨c, v, count, rej, rest⟩ := r
    dsimp only
    rw [insertLive_of_lt w t _ (lt_of_accepts (consumeLoop_spec hloop).1)]
    rfl

/-- Every successful `consume` is: remove the head, skip the candidates that fail the filter, sorted-insert the first one
that passes. -/
theorem consume_spec {s s' : St} {cands rest : List Cand} (h : consume s cands = .ok (s', rest)) :
    ∃ w t c v pre, s.live = w :: t ∧ cands = pre ++ c :: rest ∧
      accepts (some w.logL) c = some v ∧ (∀ x ∈ pre, accepts (some w.logL) x = none) ∧
      s' = stepResult s w t c v (pre.length + 1) (pre.filter (fun x => !x.popd)).length := by
  cases hl : s.live with
  | nil => simp [consume, hl] at h
  | cons w t =>
    rw [consume_cons hl] at h
    split at h
    · cases h
    · rename_i c v count rej rest' hloop
      cases h
      obtain ⟨hacc, pre, hpre, hrej, rfl, rfl⟩ := consumeLoop_spec hloop
      exact ⟨w, t, c, v, pre, rfl, hpre, hacc, hrej, by simp⟩

theorem consume_eq_begin_finish (s : St) (cands : List Cand) :
    consume s cands =
      match beginConsume s with
      | none => .error .index
      | some m => finishConsume m cands := by
  unfold consume beginConsume finishConsume
  split <;> rfl

/-- The invariant of the sampling loop, relative to the initial live set `init`. -/
structure Inv (init : List Pt) (s : St) : Prop where
  npos : 1 ≤ s.n
  len : s.live.length = s.n
  sorted : SortedL s.live
  nsorted : SortedL s.nested
  nle : ∀ x ∈ s.nested, ∀ y ∈ s.live, x.logL ≤ y.logL
  perm : (s.nested ++ s.live).Perm (init ++ s.hist)
  nlen : s.nested.length = s.iter
  ilen : s.idx.length = s.iter
  hlen : s.hist.length = s.iter
  irange : ∀ i ∈ s.idx, 0 ≤ i ∧ i < (s.n : Int)
  lmin : ∀ w, s.nested.getLast? = some w → s.logLmin = some w.logL

theorem Inv.sorted_append {init : List Pt} {s : St} (hI : Inv init s) : SortedL (s.nested ++ s.live) :=
  List.pairwise_append.mpr ⟨hI.nsorted, hI.sorted, hI.nle⟩

theorem Inv.head_le {init : List Pt} {s : St} {w : Pt} {t : List Pt} (hI : Inv init s) (hlive : s.live = w :: t) :
    ∀ y ∈ s.live, w.logL ≤ y.logL := by
  rw [hlive]
  exact List.forall_mem_cons.mpr ⟨Int.le_refl _, (List.pairwise_cons.mp (hlive ▸ hI.sorted)).1⟩

theorem Inv.rankIn_lt {init : List Pt} {s : St} {w : Pt} {t : List Pt} (hI : Inv init s) (hlive : s.live = w :: t)
    (p : Pt) : rankIn p t < s.n := by
  have := rankIn_le p t
  have : t.length + 1 = s.n := by simpa [hlive] using hI.len
  omega

theorem stepResult_inv {init : List Pt} {s : St} {w : Pt} {t : List Pt} {c : Cand} {v : Int}
    {count rej : Nat} (hI : Inv init s) (hlive : s.live = w :: t) (hlt : w.logL < v) :
    Inv init (stepResult s w t c v count rej) := by
  -- the step is a sorted insert into the complete record: everything recorded so far, and `w`, lies below the new point
  have hrec : (s.nested ++ [w]) ++ insSorted (mkPt c v (s.iter + 1)) t =
      insSorted (mkPt c v (s.iter + 1)) (s.nested ++ s.live) := by
    rw [hlive, List.append_cons s.nested w t, insSorted_append]
    intro x hx
    rcases List.mem_append.mp hx with hx | hx
    · exact Int.lt_of_le_of_lt (hI.nle x hx w (by simp [hlive])) hlt
    · rw [List.mem_singleton.mp hx]; exact hlt
  obtain ⟨hns, hs, hnle⟩ := List.pairwise_append.mp (hrec ▸ insSorted_sorted _ _ hI.sorted_append)
  exact
    { npos := hI.npos
      len := by
        show (insSorted _ t).length = s.n
        rw [insSorted_length, ← hI.len, hlive, List.length_cons]
      sorted := hs
      nsorted := hns
      nle := hnle
      perm := by
        show ((s.nested ++ [w]) ++ insSorted _ t).Perm (init ++ (s.hist ++ [_]))
        rw [hrec, ← List.append_assoc]
        exact (insSorted_perm _ _).trans ((hI.perm.cons _).trans (List.perm_append_singleton _ _).symm)
      nlen := by simp [stepResult, hI.nlen]
      ilen := by simp [stepResult, hI.ilen]
      hlen := by simp [stepResult, hI.hlen]
      irange := fun i hi => by
        rcases List.mem_append.mp hi with hi | hi
        · exact hI.irange i hi
        · rw [List.mem_singleton.mp hi]
          exact ⟨Int.natCast_nonneg _, Int.ofNat_lt.mpr (hI.rankIn_lt hlive _)⟩
      lmin := fun w' hw' => by
        cases List.getLast?_concat.symm.trans (show (s.nested ++ [w]).getLast? = some w' from hw')
        rfl }

theorem consume_inv {init : List Pt} {s s' : St} {cands rest : List Cand} (hI : Inv init s)
    (h : consume s cands = .ok (s', rest)) : Inv init s' := by
  obtain ⟨w, t, c, v, pre, hlive, _, hacc, _, rfl⟩ := consume_spec h
  exact stepResult_inv hI hlive (lt_of_accepts hacc)

/-- What C01 demands of one iteration `s → s'` that consumed `cands` down to `rest`. -/
def StepOK (s s' : St) (cands rest : List Cand) : Prop :=
  ∃ (w : Pt) (t : List Pt) (c : Cand) (p : Pt) (pre : List Cand),
    s.live = w :: t ∧ (∀ y ∈ s.live, w.logL ≤ y.logL) ∧
    cands = pre ++ c :: rest ∧ (∀ x ∈ pre, accepts (some w.logL) x = none) ∧
    c.logP ≠ .ninf ∧ p.id = c.id ∧ p.logP = c.logP ∧ p.inB = c.inB ∧ p.it = s.iter + 1 ∧
    w.logL < p.logL ∧
    s'.live = insSorted p t ∧
    s'.nested = s.nested ++ [w] ∧
    s'.idx = s.idx ++ [(rankIn p t : Int)] ∧
    s'.live[rankIn p t]? = some p ∧ rankIn p t < s.n ∧
    s'.logLmin = some w.logL ∧ s'.iter = s.iter + 1 ∧ s'.n = s.n ∧ s'.hist = s.hist ++ [p]

/-- the last step peeled off (the model recurses at the first): the form `runSteps_induction` needs -/
theorem runSteps_succ (k : Nat) (s : St) (c : List Cand) :
    runSteps (k + 1) s c =
      match runSteps k s c with
      | .error e => .error e
      | .ok (s1, c1) => consume s1 c1 := by
  induction k generalizing s c with
  | zero =>
    simp only [runSteps]
    cases consume s c <;> rfl
  | succ k ih =>
    rw [runSteps, runSteps]
    cases consume s c with
    | error e => rfl
    | ok r => exact ih r.1 r.2

theorem runSteps_induction {P : Nat → St → List Cand → Prop} {s : St} {c : List Cand} (h0 : P 0 s c)
    (step : ∀ j sj cj s' r, P j sj cj → consume sj cj = .ok (s', r) → P (j + 1) s' r) :
    ∀ {k s' r}, runSteps k s c = .ok (s', r) → P k s' r := by
  intro k
  induction k with
  | zero => intro s' r h; cases h; exact h0
  | succ k ih =>
    intro s' r h
    rw [runSteps_succ] at h
    split at h
    · cases h
    · rename_i sk ck hk
      exact step k sk ck s' r (ih hk) h

theorem runSteps_inv {init : List Pt} {k : Nat} {s s' : St} {cands rest : List Cand} (hI : Inv init s)
    (h : runSteps k s cands = .ok (s', rest)) : Inv init s' ∧ s'.iter = s.iter + k ∧ s'.n = s.n :=
  runSteps_induction (P := fun j x _ => Inv init x ∧ x.iter = s.iter + j ∧ x.n = s.n) ⟨hI, rfl, rfl⟩
    (fun j x c x' r ⟨hx, hit, hn⟩ hc => by
      have hx' := consume_inv hx hc
      obtain ⟨w, t, c, v, pre, -, -, -, -, rfl⟩ := consume_spec hc
      exact ⟨hx', by show x.iter + 1 = _; omega, hn⟩)
    h

theorem inv_new {n : Nat} {l : List Pt} (lmax : Option Int) (hn : 1 ≤ n) (hlen : l.length = n) (hs : SortedL l) :
    Inv l { St.new n with live := l, logLmax := lmax } :=
  { npos := hn
    len := hlen
    sorted := hs
    nsorted := .nil
    nle := fun _ hx => nomatch hx
    perm := (List.append_nil l).symm ▸ .refl l
    nlen := rfl
    ilen := rfl
    hlen := rfl
    irange := fun _ hi => nomatch hi
    lmin := fun _ hw => nomatch hw }

theorem populate_spec {n : Nat} {cands rest : List Cand} {s : St} (h : populate (St.new n) cands = .ok (s, rest)) :
    ∃ used lmax, cands = used ++ rest ∧ (used.filterMap storeOf).length = n ∧
      s = { St.new n with live := sortKey (used.filterMap storeOf), logLmax := lmax } := by
  unfold populate at h
  split at h
  · cases h
  · rename_i pts lmax rest' hloop
    cases h
    obtain ⟨used, hu, rfl, hl⟩ := populateLoop_spec hloop
    exact ⟨used, lmax, hu, hl (Nat.zero_le n), rfl⟩

namespace Ex

def cands0 : List Cand :=
  [⟨1, .fin 5, .fin 5, .fin, true, true⟩, ⟨2, .fin 3, .fin 3, .fin, true, true⟩,
   ⟨3, .nan, .fin 3, .fin, true, true⟩, ⟨4, .fin 3, .fin 3, .ninf, true, true⟩,
   ⟨5, .fin 0, .fin 7, .fin, true, true⟩,
   ⟨6, .fin 3, .fin 3, .fin, true, false⟩, ⟨8, .fin 9, .fin 9, .ninf, false, true⟩,
   ⟨7, .fin 5, .fin 5, .fin, true, true⟩, ⟨9, .fin 6, .fin 6, .fin, true, true⟩]

/-- the state after `populate` of three points from `cands0`: ids 2,1,5 with logL 3,5,7 -/
def s0 : St :=
  { St.new 3 with live := [⟨2, 3, 0, .fin, true⟩, ⟨1, 5, 0, .fin, true⟩, ⟨5, 7, 0, .fin, true⟩],
                  logLmax := some 7 }

def rest0 : List Cand := cands0.drop 5

/-- lets `decide` establish `e = .ok a` on a concrete `e` through `e.toOption`: `Except` has no `DecidableEq` -/
theorem ok_of_toOption {ε α : Type} {e : Except ε α} {a : α} (h : e.toOption = some a) : e = .ok a := by
  cases e with
  | error _ => cases h
  | ok b => cases h; rfl

theorem populate_s0 : populate (St.new 3) cands0 = .ok (s0, rest0) :=
  ok_of_toOption (by decide)

theorem inv_s0 : Inv s0.live s0 := inv_new (n := 3) (some 7) (by decide) rfl (by unfold SortedL; decide)

/-- one iteration: worst (id 2, logL 3) out; id 6 (logL 3, tie with logLmin) and id 8 (prior -inf)
are skipped; id 7 (logL 5, tie with live point 1) goes in *before* point 1, index 0. -/
def s1 : St :=
  { s0 with live := [⟨7, 5, 1, .fin, true⟩, ⟨1, 5, 0, .fin, true⟩, ⟨5, 7, 0, .fin, true⟩],
            nested := [⟨2, 3, 0, .fin, true⟩], idx := [0], logLmin := some 3, iter := 1,
            accepted := 1, rejected := 2, lastCount := 3, hist := [⟨7, 5, 1, .fin, true⟩] }

def rest1 : List Cand := [⟨9, .fin 6, .fin 6, .fin, true, true⟩]

theorem consume_s0 : consume s0 rest0 = .ok (s1, rest1) :=
  ok_of_toOption (by decide)

theorem run1_s0 : runSteps 1 s0 rest0 = .ok (s1, rest1) := by
  rw [runSteps, consume_s0]; rfl

/-- second iteration: id 7 (logL 5) out, id 9 (logL 6) in at index 1 -/
def s2 : St :=
  { s1 with live := [⟨1, 5, 0, .fin, true⟩, ⟨9, 6, 2, .fin, true⟩, ⟨5, 7, 0, .fin, true⟩],
            nested := [⟨2, 3, 0, .fin, true⟩, ⟨7, 5, 1, .fin, true⟩], idx := [0, 1], logLmin := some 5,
            iter := 2, accepted := 2, rejected := 2, lastCount := 1,
            hist := [⟨7, 5, 1, .fin, true⟩, ⟨9, 6, 2, .fin, true⟩] }

/-- `s0` pickled in the middle of `consume_sample`: the worst point (id 2) is already recorded and
the iteration counted, but it is still in the live set and no insertion index exists -/
def m0 : St :=
  { s0 with nested := [⟨2, 3, 0, .fin, true⟩], logLmin := some 3, iter := 1 }

theorem begin_s0 : beginConsume s0 = some m0 := by decide

/-- the run resumed from `m0` restarts `consume_sample` from the top: id 2 is recorded again -/
def m1 : St :=
  { m0 with live := [⟨7, 5, 2, .fin, true⟩, ⟨1, 5, 0, .fin, true⟩, ⟨5, 7, 0, .fin, true⟩],
            nested := [⟨2, 3, 0, .fin, true⟩, ⟨2, 3, 0, .fin, true⟩], idx := [0], iter := 2,
            accepted := 1, rejected := 2, lastCount := 3, hist := [⟨7, 5, 2, .fin, true⟩] }

theorem consume_m0 : consume m0 rest0 = .ok (m1, rest1) :=
  ok_of_toOption (by decide)

theorem run2_s0 : runSteps 2 s0 rest0 = .ok (s2, []) :=
  ok_of_toOption (by decide)

end Ex

end NessaiVerif.LiveSet
