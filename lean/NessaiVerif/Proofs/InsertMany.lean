import NessaiVerif.Model.Np
/-
`np.insert(a, idx, vals)` characterised by a merge *script* (which source each output
slot is taken from).  The same script governs the sample array and the index arrays:
its true positions are where the inserted values land, its false positions where the
old elements go.
-/
namespace NessaiVerif.Np
variable {α β : Type}

/-- which source each output slot comes from: `true` = inserted value, `false` = old element -/
def script : Nat → List Nat → Nat → List Bool
  | n, [], _ => List.replicate n false
  | 0, _ :: is, pos => true :: script 0 is pos
  | n + 1, i :: is, pos =>
      if i ≤ pos then true :: script (n + 1) is pos
      else false :: script n (i :: is) (pos + 1)
termination_by n idx _ => n + idx.length

/-- the output a script describes: each slot takes the next inserted value (`true`) or the next old element (`false`) -/
def weave : List Bool → List α → List α → List α
  | [], _, _ => []
  | true :: t, a, v :: vs => v :: weave t a vs
  | false :: t, x :: xs, vs => x :: weave t xs vs
  | true :: _, _, [] => []
  | false :: _, [], _ => []

/-- the output positions, counted from `off`, of the script's `true` slots (where the inserted values land), ascending -/
def truePos : List Bool → Nat → List Nat
  | [], _ => []
  | true :: t, off => off :: truePos t (off + 1)
  | false :: t, off => truePos t (off + 1)

/-- likewise the positions of the `false` slots: where the old elements go -/
def falsePos (t : List Bool) (off : Nat) : List Nat := truePos (t.map (!·)) off

theorem falsePos_true (t : List Bool) (off : Nat) : falsePos (true :: t) off = falsePos t (off + 1) := rfl

theorem falsePos_false (t : List Bool) (off : Nat) : falsePos (false :: t) off = off :: falsePos t (off + 1) := rfl

theorem weave_not (t : List Bool) (a b : List α) : weave (t.map (!·)) b a = weave t a b := by
  fun_induction weave t a b <;> simp [weave, *]

theorem weave_map (f : α → β) (t : List Bool) (a b : List α) :
    (weave t a b).map f = weave t (a.map f) (b.map f) := by
  fun_induction weave t a b <;> simp_all [weave]

theorem weave_perm (t : List Bool) (a b : List α)
    (ha : t.count false = a.length) (hb : t.count true = b.length) :
    (weave t a b).Perm (a ++ b) := by
  fun_induction weave t a b with
  | case1 a b =>
    rw [List.eq_nil_of_length_eq_zero ha.symm, List.eq_nil_of_length_eq_zero hb.symm]; exact .refl _
  | case2 t a v vs ih => exact ((ih (by simpa using ha) (by simpa using hb)).cons v).trans List.perm_middle.symm
  | case3 t x xs vs ih => exact (ih (by simpa using ha) (by simpa using hb)).cons x
  | case4 t a => simp at hb
  | case5 t b => simp at ha

theorem weave_length (t : List Bool) (a b : List α)
    (ha : t.count false = a.length) (hb : t.count true = b.length) :
    (weave t a b).length = t.length := by
  rw [(weave_perm t a b ha hb).length_eq, List.length_append, ← ha, ← hb,
    List.length_eq_countP_add_countP (· == false) (l := t)]
  simp [List.count_eq_countP]

theorem weave_replicate_false (a : List α) : weave (List.replicate a.length false) a ([] : List α) = a := by
  induction a with
  | nil => rfl
  | cons x xs ih => simp [List.replicate_succ, weave, ih]

theorem count_script_false (n : Nat) (idx : List Nat) (pos : Nat) :
    (script n idx pos).count false = n := by
  fun_induction script n idx pos <;> simp [*]

theorem count_script_true (n : Nat) (idx : List Nat) (pos : Nat) :
    (script n idx pos).count true = idx.length := by
  fun_induction script n idx pos <;> simp [*, List.count_replicate]

theorem insertMany_eq_weave (a : List α) (idx : List Nat) (vals : List α) (pos : Nat)
    (h : vals.length = idx.length) :
    insertMany a idx vals pos = weave (script a.length idx pos) a vals := by
  fun_induction insertMany a idx vals pos with
  | case1 a vals pos =>
    cases vals with
    | nil => simp [script, weave_replicate_false]
    | cons _ _ => simp at h
  | case2 a i is pos => simp at h
  | case3 i is v vs pos ih =>
    simp at h
    simp [script, weave, ih h]
  | case4 x xs i is v vs pos hle ih =>
    simp at h
    simp [script, hle, weave, ih h]
  | case5 x xs i is v vs pos hle ih =>
    simp [script, hle, weave, ih h]

theorem insertMany_map (f : α → β) (a : List α) (idx : List Nat) (vals : List α) (pos : Nat) :
    (insertMany a idx vals pos).map f = insertMany (a.map f) idx (vals.map f) pos := by
  fun_induction insertMany a idx vals pos with
  | case1 | case2 => simp [insertMany]
  | case3 i is v vs pos ih => simp [insertMany, ih]
  | case4 x xs i is v vs pos hle ih => simp [insertMany, hle, ih]
  | case5 x xs i is v vs pos hle ih => simp [insertMany, hle, ih]

theorem insertMany_length (a : List α) (idx : List Nat) (vals : List α) (pos : Nat)
    (h : vals.length = idx.length) : (insertMany a idx vals pos).length = a.length + idx.length := by
  rw [insertMany_eq_weave a idx vals pos h, (weave_perm _ a vals (count_script_false _ idx pos)
    ((count_script_true _ idx pos).trans h.symm)).length_eq, List.length_append, h]

theorem count_map_not (t : List Bool) (c : Bool) : (t.map (!·)).count c = t.count (!c) := by
  induction t with
  | nil => rfl
  | cons b t ih => cases b <;> cases c <;> simp [ih]

theorem truePos_ge (t : List Bool) (off : Nat) : ∀ i ∈ truePos t off, off ≤ i := by
  induction t generalizing off with
  | nil => simp [truePos]
  | cons b t ih =>
    intro i hi
    cases b
    · exact Nat.le_of_succ_le (ih _ i hi)
    · rcases List.mem_cons.mp hi with rfl | hi
      · exact Nat.le_refl _
      · exact Nat.le_of_succ_le (ih _ i hi)

theorem truePos_succ (t : List Bool) (off : Nat) :
    truePos t (off + 1) = (truePos t off).map (· + 1) := by
  induction t generalizing off with
  | nil => rfl
  | cons b t ih => cases b <;> simp [truePos, ih]

theorem truePos_pairwise (t : List Bool) (off : Nat) : (truePos t off).Pairwise (· < ·) := by
  induction t generalizing off with
  | nil => simp [truePos]
  | cons b t ih =>
    cases b
    · exact ih (off + 1)
    · exact List.pairwise_cons.mpr ⟨fun i hi => Nat.lt_of_succ_le (truePos_ge t (off + 1) i hi), ih (off + 1)⟩

theorem truePos_length (t : List Bool) (off : Nat) : (truePos t off).length = t.count true := by
  induction t generalizing off with
  | nil => simp [truePos]
  | cons b t ih => cases b <;> simp [truePos, ih]

theorem truePos_replicate_false (n off : Nat) : truePos (List.replicate n false) off = [] := by
  induction n generalizing off with
  | zero => rfl
  | succ n ih => simp [List.replicate_succ, truePos, ih]

theorem falsePos_pairwise (t : List Bool) (off : Nat) : (falsePos t off).Pairwise (· < ·) :=
  truePos_pairwise _ _

theorem falsePos_append_truePos_perm (t : List Bool) (off : Nat) :
    (falsePos t off ++ truePos t off).Perm (List.range' off t.length) := by
  induction t generalizing off with
  | nil => exact .refl _
  | cons b t ih =>
    rw [List.length_cons, List.range'_succ]
    cases b
    · rw [falsePos_false, truePos, List.cons_append]
      exact List.Perm.cons _ (ih (off + 1))
    · rw [falsePos_true, truePos]
      exact List.perm_middle.trans (List.Perm.cons _ (ih (off + 1)))

theorem complement_truePos (t : List Bool) (off : Nat) :
    (List.range' off t.length).filter (fun i => !(truePos t off).contains i) = falsePos t off := by
  induction t generalizing off with
  | nil => rfl
  | cons b t ih =>
    rw [List.length_cons, List.range'_succ]
    cases b
    · have hoff : off ∉ truePos t (off + 1) := fun hc => Nat.lt_irrefl _ (truePos_ge t _ off hc)
      rw [truePos, falsePos_false, List.filter_cons_of_pos (by simpa using hoff), ih (off + 1)]
    · rw [truePos, falsePos_true, List.filter_cons_of_neg (by simp), ← ih (off + 1)]
      refine List.filter_congr fun i hi => ?_
      have : i ≠ off := by have := List.mem_range'.mp hi; omega
      simp [this]

theorem complement_truePos0 (t : List Bool) : complement t.length (truePos t 0) = falsePos t 0 := by
  rw [complement, List.range_eq_range']; exact complement_truePos t 0

theorem weave_at_truePos (d : α) (t : List Bool) (a b : List α)
    (ha : t.count false = a.length) (hb : t.count true = b.length) :
    (truePos t 0).map (fun i => (weave t a b).getD i d) = b := by
  fun_induction weave t a b with
  | case1 a b => exact (List.eq_nil_of_length_eq_zero hb.symm).symm
  | case2 t a v vs ih =>
    have := ih (by simpa using ha) (by simpa using hb)
    simp only [truePos, Nat.zero_add, truePos_succ, List.map_cons, List.map_map, Function.comp_def,
      List.getD_cons_zero, List.getD_cons_succ, this]
  | case3 t x xs vs ih =>
    have := ih (by simpa using ha) (by simpa using hb)
    simp only [truePos, Nat.zero_add, truePos_succ, List.map_map, Function.comp_def, List.getD_cons_succ, this]
  | case4 t a => simp at hb
  | case5 t b => simp at ha

theorem weave_at_falsePos (d : α) (t : List Bool) (a b : List α)
    (ha : t.count false = a.length) (hb : t.count true = b.length) :
    (falsePos t 0).map (fun i => (weave t a b).getD i d) = a := by
  rw [← weave_not]
  exact weave_at_truePos d _ b a (by rw [count_map_not]; exact hb) (by rw [count_map_not]; exact ha)

end NessaiVerif.Np
