import NessaiVerif.Proofs.ReparamRtb
import Mathlib.Analysis.SpecialFunctions.Log.Deriv
import Mathlib.Analysis.SpecialFunctions.Trigonometric.Deriv
import Mathlib.Analysis.SpecialFunctions.Complex.Arg
/-
C07 — the transcendental maps over ℝ (Mathlib).  These are statements about the mathematical functions the
NumPy code evaluates (`np.log`, `np.log1p(-x)` = log(1-x), `np.exp`, `np.arctan2(y, x)` = arg(x + iy), `%`);
the link to the float code is the numeric oracle of the check, not a proof.
-/
namespace NessaiVerif.Reparam
open Real

/-- `logit(x, eps)` of `nessai/utils/rescaling.py`: value and log-Jacobian; `eps = 0` stands for `eps=None` (falsy: no
clamping) -/
noncomputable def logitLJ (eps : ℝ) (x : ℝ) : ℝ × ℝ :=
  let x := if eps ≠ 0 then max eps (min x (1 - eps)) else x
  (log x - log (1 - x), -log x - log (1 - x))

/-- `sigmoid(x)`: value and log-Jacobian -/
noncomputable def sigmoidLJ (y : ℝ) : ℝ × ℝ :=
  let s := 1 / (1 + exp (-y))
  (s, log s + log (1 - s))

/-- `log_with_log_jacobian` -/
noncomputable def logLJ (x : ℝ) : ℝ × ℝ := (log x, -log x)
/-- `exp_with_log_jacobian` -/
noncomputable def expLJ (y : ℝ) : ℝ × ℝ := (exp y, y)

theorem logitLJ_zero (x : ℝ) : logitLJ 0 x = (log x - log (1 - x), -log x - log (1 - x)) := by
  simp only [logitLJ, ne_eq, not_true_eq_false, if_false]

theorem sigmoid_logit (x : ℝ) (h0 : 0 < x) (h1 : x < 1) : (sigmoidLJ (logitLJ 0 x).1).1 = x := by
  have h1x : 0 < 1 - x := by linarith
  simp only [sigmoidLJ, logitLJ_zero]
  rw [neg_sub, exp_sub, exp_log h1x, exp_log h0]
  field_simp
  ring

theorem logit_sigmoid_logJ (x : ℝ) (h0 : 0 < x) (h1 : x < 1) :
    (logitLJ 0 x).2 + (sigmoidLJ (logitLJ 0 x).1).2 = 0 := by
  rw [show ∀ y, (sigmoidLJ y).2 = log (sigmoidLJ y).1 + log (1 - (sigmoidLJ y).1) from fun _ => rfl,
    sigmoid_logit x h0 h1, logitLJ_zero]
  ring

theorem logit_hasDerivAt (x : ℝ) (h0 : 0 < x) (h1 : x < 1) :
    HasDerivAt (fun t => (logitLJ 0 t).1) (exp (logitLJ 0 x).2) x := by
  have h1x : 0 < 1 - x := by linarith
  have hd : HasDerivAt (fun t => log t - log (1 - t)) (x⁻¹ - (-1) / (1 - x)) x :=
    (Real.hasDerivAt_log h0.ne').sub (((hasDerivAt_id' x).const_sub 1).log h1x.ne')
  have hval : exp (-log x - log (1 - x)) = x⁻¹ - (-1) / (1 - x) := by
    rw [show -log x - log (1 - x) = -(log x + log (1 - x)) by ring, exp_neg, exp_add, exp_log h0, exp_log h1x]
    field_simp
    ring
  simp only [logitLJ_zero, hval]
  exact hd

theorem exp_log_roundtrip (x : ℝ) (h0 : 0 < x) :
    (expLJ (logLJ x).1).1 = x ∧ (logLJ x).2 + (expLJ (logLJ x).1).2 = 0 := by
  simp only [expLJ, logLJ]
  exact ⟨exp_log h0, by ring⟩

theorem log_exp_roundtrip (y : ℝ) :
    (logLJ (expLJ y).1).1 = y ∧ (expLJ y).2 + (logLJ (expLJ y).1).2 = 0 := by
  simp only [expLJ, logLJ, log_exp]
  exact ⟨trivial, by ring⟩

theorem log_hasDerivAt (x : ℝ) (h0 : 0 < x) : HasDerivAt (fun t => (logLJ t).1) (exp (logLJ x).2) x := by
  have : exp (logLJ x).2 = x⁻¹ := by simp only [logLJ]; rw [exp_neg, exp_log h0]
  rw [this]; exact Real.hasDerivAt_log (ne_of_gt h0)

/-- the named hooks in the factor convention of the exact model (factor = exp(log-Jacobian)) -/
noncomputable def logHook : Hook ℝ := ⟨fun x => ((logLJ x).1, exp (logLJ x).2), fun y => ((expLJ y).1, exp (expLJ y).2)⟩
noncomputable def expHook : Hook ℝ := ⟨fun x => ((expLJ x).1, exp (expLJ x).2), fun y => ((logLJ y).1, exp (logLJ y).2)⟩
noncomputable def logitHook : Hook ℝ :=
  ⟨fun x => ((logitLJ 0 x).1, exp (logitLJ 0 x).2), fun y => ((sigmoidLJ y).1, exp (sigmoidLJ y).2)⟩

theorem Hook.lawfulAt_of_logJ {f g : ℝ → ℝ × ℝ} {x : ℝ} (h : (g (f x).1).1 = x ∧ (f x).2 + (g (f x).1).2 = 0) :
    (⟨fun x => ((f x).1, exp (f x).2), fun y => ((g y).1, exp (g y).2)⟩ : Hook ℝ).LawfulAt x :=
  ⟨h.1, by simp only; rw [← exp_add, h.2, exp_zero]⟩

theorem logHook_lawful (x : ℝ) (h : 0 < x) : logHook.LawfulAt x := Hook.lawfulAt_of_logJ (exp_log_roundtrip x h)

theorem expHook_lawful (x : ℝ) : expHook.LawfulAt x := Hook.lawfulAt_of_logJ (log_exp_roundtrip x)

theorem logitHook_lawful (x : ℝ) (h0 : 0 < x) (h1 : x < 1) : logitHook.LawfulAt x :=
  Hook.lawfulAt_of_logJ ⟨sigmoid_logit x h0 h1, logit_sigmoid_logJ x h0 h1⟩

/-- `np.arctan2(y, x)` -/
noncomputable def arctan2 (y x : ℝ) : ℝ := Complex.arg ⟨x, y⟩

/-- NumPy `a % m` for `m > 0` -/
noncomputable def pmod (a m : ℝ) : ℝ := a - m * ⌊a / m⌋

theorem polar_complex (r φ : ℝ) :
    (⟨r * cos φ, r * sin φ⟩ : ℂ) = (r : ℂ) * (Complex.cos φ + Complex.sin φ * Complex.I) := by
  apply Complex.ext <;> simp [Complex.cos_ofReal_re, Complex.sin_ofReal_re, Complex.cos_ofReal_im, Complex.sin_ofReal_im]

theorem arctan2_polar (r φ : ℝ) (hr : 0 < r) (h0 : -π < φ) (h1 : φ ≤ π) :
    arctan2 (r * sin φ) (r * cos φ) = φ := by
  unfold arctan2
  rw [polar_complex]
  exact Complex.arg_mul_cos_add_sin_mul_I hr ⟨h0, h1⟩

theorem polar_sq (r φ : ℝ) : (r * cos φ) ^ 2 + (r * sin φ) ^ 2 = r ^ 2 := by
  linear_combination r ^ 2 * cos_sq_add_sin_sq φ

theorem radius_polar (r φ : ℝ) (hr : 0 ≤ r) : sqrt ((r * cos φ) ^ 2 + (r * sin φ) ^ 2) = r := by
  rw [polar_sq, sqrt_sq hr]

theorem pmod_eq (a m : ℝ) (n : ℤ) (hm : 0 < m) (h0 : n * m ≤ a) (h1 : a < (n + 1) * m) : pmod a m = a - m * n := by
  unfold pmod
  rw [Int.floor_eq_iff.mpr ⟨(le_div_iff₀ hm).mpr h0, (div_lt_iff₀ hm).mpr h1⟩]

theorem arctan2_polar_mod (r φ : ℝ) (hr : 0 < r) (h0 : 0 ≤ φ) (h1 : φ < 2 * π) :
    pmod (arctan2 (r * sin φ) (r * cos φ)) (2 * π) = φ := by
  have hpi := pi_pos
  rcases le_or_gt φ π with h | h
  · rw [arctan2_polar r φ hr (by linarith) h, pmod_eq φ (2 * π) 0 (by linarith) (by simpa using h0) (by simpa using h1)]
    simp
  · -- beyond `π`, `arctan2` returns `φ − 2π`; the `% 2π` brings it back: `pmod_eq` with `n = −1`
    have e : arctan2 (r * sin φ) (r * cos φ) = φ - 2 * π := by
      have := arctan2_polar r (φ - 2 * π) hr (by linarith) (by linarith)
      rwa [sin_sub_two_pi, cos_sub_two_pi] at this
    rw [e, pmod_eq (φ - 2 * π) (2 * π) (-1) (by linarith) (by push_cast; linarith) (by push_cast; linarith)]
    push_cast; ring

theorem arctan2_branch (ρ φ : ℝ) (m : Bool) (hρ : 0 < ρ) (h1 : m = false → -π < φ ∧ φ ≤ π)
    (h2 : m = true → 0 ≤ φ ∧ φ < 2 * π) :
    (if m then pmod (arctan2 (ρ * sin φ) (ρ * cos φ)) (2 * π) else arctan2 (ρ * sin φ) (ρ * cos φ)) = φ := by
  cases m
  · exact arctan2_polar ρ φ hρ (h1 rfl).1 (h1 rfl).2
  · exact arctan2_polar_mod ρ φ hρ (h2 rfl).1 (h2 rfl).2

/-- mirroring in the horizontal axis negates the angle, except that `−π` comes back as `π`: the absolute value is unchanged -/
theorem abs_arctan2_neg (y x : ℝ) : |arctan2 (-y) x| = |arctan2 y x| := by
  have : (⟨x, -y⟩ : ℂ) = (starRingEnd ℂ) ⟨x, y⟩ := rfl
  unfold arctan2
  rw [this, Complex.arg_conj]; split_ifs with h
  · rw [h]
  · exact abs_neg _

theorem polar_partials {A : ℝ → ℝ} {k x : ℝ} (hA : HasDerivAt A k x) (r : ℝ) :
    HasDerivAt (fun t => r * cos (A t)) (r * (-sin (A x) * k)) x ∧
    HasDerivAt (fun t => r * sin (A t)) (r * (cos (A x) * k)) x ∧
    HasDerivAt (fun ρ => ρ * cos (A x)) (cos (A x)) r ∧
    HasDerivAt (fun ρ => ρ * sin (A x)) (sin (A x)) r :=
  ⟨hA.cos.const_mul r, hA.sin.const_mul r, by simpa using (hasDerivAt_id r).mul_const (cos (A x)),
    by simpa using (hasDerivAt_id r).mul_const (sin (A x))⟩

theorem polar_det (φ k r : ℝ) : (r * (-sin φ * k)) * sin φ - cos φ * (r * (cos φ * k)) = -(k * r) := by
  linear_combination -(k * r) * cos_sq_add_sin_sq φ

/-- for `(t, ρ) ↦ (ρ cos (A t), ρ sin (A t))` at `(x, r)`: `a = ∂X/∂t`, `b = ∂X/∂ρ`, `c = ∂Y/∂t`, `d = ∂Y/∂ρ`; `k = A' x` -/
theorem polar_jacobian {A : ℝ → ℝ} {k x r : ℝ} (hA : HasDerivAt A k x) (hr : 0 < r) :
    ∃ a b c d : ℝ,
      HasDerivAt (fun t => r * cos (A t)) a x ∧ HasDerivAt (fun ρ => ρ * cos (A x)) b r ∧
      HasDerivAt (fun t => r * sin (A t)) c x ∧ HasDerivAt (fun ρ => ρ * sin (A x)) d r ∧
      |a * d - b * c| = |k| * r :=
  let ⟨h1, h2, h3, h4⟩ := polar_partials hA r
  ⟨_, _, _, _, h1, h3, h2, h4, by rw [polar_det, abs_neg, abs_mul, abs_of_pos hr]⟩

/-- `Angle.reparameterise`: `(x', y', log_j)` for angle `θ`, radius `r`, `scale = s` -/
noncomputable def angleFwd (s θ r : ℝ) : ℝ × ℝ × ℝ := (r * cos (θ * s), r * sin (θ * s), log r)

/-- `Angle.inverse_reparameterise`: `(θ, r, log_j)`; `zeroBound` selects the `% 2π` branch -/
noncomputable def angleInv (s : ℝ) (zeroBound : Bool) (x y : ℝ) : ℝ × ℝ × ℝ :=
  (if zeroBound then pmod (arctan2 y x) (2 * π) / s else arctan2 y x / s, sqrt (x ^ 2 + y ^ 2), -log (sqrt (x ^ 2 + y ^ 2)))

/-- `ToCartesian`: rescale to [0,1], random sign, times `scale = π`, then the Angle map -/
noncomputable def toCartFwd (p0 p1 : ℝ) (neg : Bool) (x r : ℝ) : ℝ × ℝ × ℝ :=
  let u := (x - p0) / (p1 - p0)
  let a := (if neg then -u else u) * π
  (r * cos a, r * sin a, -log (p1 - p0) + log r)

noncomputable def toCartInv (p0 p1 : ℝ) (X Y : ℝ) : ℝ × ℝ × ℝ :=
  let r := sqrt (X ^ 2 + Y ^ 2)
  ((p1 - p0) * |arctan2 Y X / π| + p0, r, -log r + log (p1 - p0))

/-- `polar_partials` for the Angle map `(t, ρ) ↦ (ρ cos (s t), ρ sin (s t))` at `(θ, r)` -/
theorem angle_partials (s θ r : ℝ) :
    HasDerivAt (fun t => r * cos (s * t)) (r * (-sin (s * θ) * s)) θ ∧
    HasDerivAt (fun t => r * sin (s * t)) (r * (cos (s * θ) * s)) θ ∧
    HasDerivAt (fun ρ => ρ * cos (s * θ)) (cos (s * θ)) r ∧
    HasDerivAt (fun ρ => ρ * sin (s * θ)) (sin (s * θ)) r :=
  polar_partials (A := fun t => s * t) (by simpa using (hasDerivAt_id θ).const_mul s) r

/-- determinant of the matrix of `angle_partials`: `−(s·r)`, so `|det| = |s|·r` and the reported `log r` is short of
`log|det J|` by the constant `log|s|` (`C07.angle_jacobian`) -/
theorem angle_det (s θ r : ℝ) :
    (r * (-sin (s * θ) * s)) * sin (s * θ) - cos (s * θ) * (r * (cos (s * θ) * s)) = -(s * r) :=
  polar_det (s * θ) s r

theorem toCartesian_angle (r u : ℝ) (neg : Bool) (hr : 0 < r) (h0 : 0 ≤ u) (h1 : u ≤ 1) :
    |arctan2 (r * sin ((if neg then -u else u) * π)) (r * cos ((if neg then -u else u) * π))| / π = u := by
  have hpu : 0 ≤ u * π := mul_nonneg h0 pi_pos.le
  have key : |arctan2 (r * sin (u * π)) (r * cos (u * π))| / π = u := by
    rw [arctan2_polar r (u * π) hr (by linarith [pi_pos]) (mul_le_of_le_one_left pi_pos.le h1), abs_of_nonneg hpu,
      mul_div_cancel_right₀ _ pi_ne_zero]
  cases neg
  · exact key
  · simp only [if_true, neg_mul, sin_neg, cos_neg, mul_neg, abs_arctan2_neg]; exact key

/-- `AnglePair`, convention ra-dec -/
noncomputable def radecFwd (α δ r : ℝ) : ℝ × ℝ × ℝ × ℝ :=
  (r * cos δ * cos α, r * cos δ * sin α, r * sin δ, 2 * log r + log (cos δ))

noncomputable def radecInv (modulo : Bool) (x y z : ℝ) : ℝ × ℝ × ℝ × ℝ :=
  let r := sqrt (x ^ 2 + y ^ 2 + z ^ 2)
  let a := if modulo then pmod (arctan2 y x) (2 * π) else arctan2 y x
  let d := arctan2 z (sqrt (x ^ 2 + y ^ 2))
  (a, d, r, -2 * log r - log (cos d))

/-- `AnglePair`, convention az-zen -/
noncomputable def azzenFwd (α ζ r : ℝ) : ℝ × ℝ × ℝ × ℝ :=
  (r * sin ζ * cos α, r * sin ζ * sin α, r * cos ζ, 2 * log r + log (sin ζ))

noncomputable def azzenInv (modulo : Bool) (x y z : ℝ) : ℝ × ℝ × ℝ × ℝ :=
  let r := sqrt (x ^ 2 + y ^ 2 + z ^ 2)
  let a := if modulo then pmod (arctan2 y x) (2 * π) else arctan2 y x
  let d := arctan2 (sqrt (x ^ 2 + y ^ 2)) z
  (a, d, r, -2 * log r - log (sin d))

theorem anglePair_radius (r a b : ℝ) (hr : 0 ≤ r) :
    sqrt ((r * cos b * cos a) ^ 2 + (r * cos b * sin a) ^ 2 + (r * sin b) ^ 2) = r := by
  rw [polar_sq (r * cos b) a, polar_sq r b, sqrt_sq hr]

/-- the same for the az-zen convention (`sin b` and `cos b` exchanged) -/
theorem anglePair_radius' (r a b : ℝ) (hr : 0 ≤ r) :
    sqrt ((r * sin b * cos a) ^ 2 + (r * sin b * sin a) ^ 2 + (r * cos b) ^ 2) = r := by
  rw [polar_sq (r * sin b) a, add_comm, polar_sq r b, sqrt_sq hr]

/-- 3×3 determinant by cofactor expansion along the first row -/
def det3 (a b c d e f g h i : ℝ) : ℝ := a * (e * i - f * h) - b * (d * i - f * g) + c * (d * h - e * g)

/-- ra-dec convention: off the poles (|δ| < π/2) and off the identified end point (α ∈ (−π, π]) both angles are recovered
by the two `arctan2` calls of `_inv_ra_dec` -/
theorem anglePair_radec_angles (r α δ : ℝ) (hr : 0 < r) (hδ0 : -(π / 2) < δ) (hδ1 : δ < π / 2)
    (hα0 : -π < α) (hα1 : α ≤ π) :
    arctan2 (r * cos δ * sin α) (r * cos δ * cos α) = α ∧
    arctan2 (r * sin δ) (sqrt ((r * cos δ * cos α) ^ 2 + (r * cos δ * sin α) ^ 2)) = δ := by
  have hc : 0 < cos δ := cos_pos_of_mem_Ioo ⟨hδ0, hδ1⟩
  have hrc : 0 < r * cos δ := mul_pos hr hc
  have hpi := pi_pos
  refine ⟨arctan2_polar (r * cos δ) α hrc hα0 hα1, ?_⟩
  rw [radius_polar (r * cos δ) α hrc.le]
  exact arctan2_polar r δ hr (by linarith) (by linarith)

/-- az-zen convention: zenith in (0, π) -/
theorem anglePair_azzen_angles (r α ζ : ℝ) (hr : 0 < r) (hζ0 : 0 < ζ) (hζ1 : ζ < π)
    (hα0 : -π < α) (hα1 : α ≤ π) :
    arctan2 (r * sin ζ * sin α) (r * sin ζ * cos α) = α ∧
    arctan2 (sqrt ((r * sin ζ * cos α) ^ 2 + (r * sin ζ * sin α) ^ 2)) (r * cos ζ) = ζ := by
  have hs : 0 < sin ζ := sin_pos_of_pos_of_lt_pi hζ0 hζ1
  have hrs : 0 < r * sin ζ := mul_pos hr hs
  have hpi := pi_pos
  refine ⟨arctan2_polar (r * sin ζ) α hrs hα0 hα1, ?_⟩
  rw [radius_polar (r * sin ζ) α hrs.le]
  exact arctan2_polar r ζ hr (by linarith) hζ1.le

theorem anglePair_radec_partials (r α δ : ℝ) :
    HasDerivAt (fun t => r * cos δ * cos t) (r * cos δ * -sin α) α ∧
    HasDerivAt (fun t => r * cos t * cos α) (r * -sin δ * cos α) δ ∧
    HasDerivAt (fun ρ => ρ * cos δ * cos α) (1 * cos δ * cos α) r ∧
    HasDerivAt (fun t => r * cos δ * sin t) (r * cos δ * cos α) α ∧
    HasDerivAt (fun t => r * cos t * sin α) (r * -sin δ * sin α) δ ∧
    HasDerivAt (fun ρ => ρ * cos δ * sin α) (1 * cos δ * sin α) r ∧
    HasDerivAt (fun _ : ℝ => r * sin δ) 0 α ∧
    HasDerivAt (fun t => r * sin t) (r * cos δ) δ ∧
    HasDerivAt (fun ρ => ρ * sin δ) (1 * sin δ) r :=
  ⟨(hasDerivAt_cos α).const_mul _, ((hasDerivAt_cos δ).const_mul r).mul_const _,
   ((hasDerivAt_id r).mul_const _).mul_const _,
   (hasDerivAt_sin α).const_mul _, ((hasDerivAt_cos δ).const_mul r).mul_const _,
   ((hasDerivAt_id r).mul_const _).mul_const _,
   hasDerivAt_const α _, (hasDerivAt_sin δ).const_mul r, (hasDerivAt_id r).mul_const _⟩

/-- determinant of the matrix of `anglePair_radec_partials`: `r² cos δ` — exactly what `_ra_dec` reports
(`2 log r + log cos δ`) -/
theorem anglePair_radec_det (r α δ : ℝ) :
    det3 (r * cos δ * -sin α) (r * -sin δ * cos α) (1 * cos δ * cos α)
         (r * cos δ * cos α) (r * -sin δ * sin α) (1 * cos δ * sin α)
         0 (r * cos δ) (1 * sin δ) = r ^ 2 * cos δ := by
  have h1 := cos_sq_add_sin_sq α
  have h2 := cos_sq_add_sin_sq δ
  unfold det3
  linear_combination (r ^ 2 * cos δ * cos α ^ 2 + r ^ 2 * cos δ * sin α ^ 2) * h2 + (r ^ 2 * cos δ) * h1

theorem anglePair_azzen_partials (r α ζ : ℝ) :
    HasDerivAt (fun t => r * sin ζ * cos t) (r * sin ζ * -sin α) α ∧
    HasDerivAt (fun t => r * sin t * cos α) (r * cos ζ * cos α) ζ ∧
    HasDerivAt (fun ρ => ρ * sin ζ * cos α) (1 * sin ζ * cos α) r ∧
    HasDerivAt (fun t => r * sin ζ * sin t) (r * sin ζ * cos α) α ∧
    HasDerivAt (fun t => r * sin t * sin α) (r * cos ζ * sin α) ζ ∧
    HasDerivAt (fun ρ => ρ * sin ζ * sin α) (1 * sin ζ * sin α) r ∧
    HasDerivAt (fun _ : ℝ => r * cos ζ) 0 α ∧
    HasDerivAt (fun t => r * cos t) (r * -sin ζ) ζ ∧
    HasDerivAt (fun ρ => ρ * cos ζ) (1 * cos ζ) r :=
  ⟨(hasDerivAt_cos α).const_mul _, ((hasDerivAt_sin ζ).const_mul r).mul_const _,
   ((hasDerivAt_id r).mul_const _).mul_const _,
   (hasDerivAt_sin α).const_mul _, ((hasDerivAt_sin ζ).const_mul r).mul_const _,
   ((hasDerivAt_id r).mul_const _).mul_const _,
   hasDerivAt_const α _, (hasDerivAt_cos ζ).const_mul r, (hasDerivAt_id r).mul_const _⟩

/-- determinant of the matrix of `anglePair_azzen_partials`: `−r² sin ζ`, absolute value `r² sin ζ` as reported by
`_az_zen` -/
theorem anglePair_azzen_det (r α ζ : ℝ) :
    det3 (r * sin ζ * -sin α) (r * cos ζ * cos α) (1 * sin ζ * cos α)
         (r * sin ζ * cos α) (r * cos ζ * sin α) (1 * sin ζ * sin α)
         0 (r * -sin ζ) (1 * cos ζ) = -(r ^ 2 * sin ζ) := by
  have h1 := cos_sq_add_sin_sq α
  have h2 := cos_sq_add_sin_sq ζ
  unfold det3
  linear_combination (-(r ^ 2 * sin ζ * cos α ^ 2) - r ^ 2 * sin ζ * sin α ^ 2) * h2 + (-(r ^ 2 * sin ζ)) * h1

theorem rtbFwd_hasDerivAt (r : Rtb ℝ) (neg : Bool) (x : ℝ) (hb : r.b0 < r.b1)
    (hpre : HasDerivAt (fun t => (r.preF t).1) (r.preF x).2 x)
    (hpost : HasDerivAt (fun t => (r.postF t).1) (r.postF (rtbCore r neg (r.preF x).1).1).2
      (rtbCore r neg (r.preF x).1).1) :
    ∃ d, HasDerivAt (fun t => (rtbFwd r neg t).1) d x ∧ |d| = |(rtbFwd r neg x).2| := by
  -- the core has slope `c` and reports `|c|`; `c < 0` where an edge is reflected and exactly one of `edge = upper`, `neg` holds,
  -- so the derivative and the reported factor can agree in absolute value only
  obtain ⟨c, d0, hval, hj⟩ := rtbCore_affine_form r neg hb
  simp only [rtbFwd, hval, hj] at hpost ⊢
  have h := hpost.comp x ((hpre.const_mul c).add_const d0)
  refine ⟨_, h, ?_⟩
  simp only [abs_mul, abs_abs]; ring

/-- state of `get_reparameterisation("logit")` / `("log-rescale")` for one parameter: rescale bounds [0, 1],
`update_bounds=False`, named post-rescaling; `off` = the `offset` option -/
noncomputable def namedPostObject (h : Hook ℝ) (p0 p1 : ℝ) (off : Bool) : Rtb ℝ :=
  rtbMk p0 p1 (some (0, 1)) none false off false none (some h) true false

theorem namedPostObject_core (h : Hook ℝ) (p0 p1 x : ℝ) (off neg : Bool) :
    (rtbCore (namedPostObject h p0 p1 off) neg x).1 = (x - p0) / (p1 - p0) := by
  rw [rtbCore_eq, Rtb.kept, Rtb.unit_of_bounds (lo := p0) (hi := p1) rfl rfl]
  -- `sgn`, `gain`, `icpt` of this concrete object (no inversion, rescale bounds `[0, 1]`) reduce to `1`, `ptp 0 1`, `0`
  show 1 * (ptp (0 : ℝ) 1 * _ + 0) = _
  rw [ptp_of_le zero_le_one]; ring

theorem namedPostObject_facts (h : Hook ℝ) (p0 p1 : ℝ) (off : Bool) (hp : p0 < p1) :
    let r := namedPostObject h p0 p1 off
    r.b0 < r.b1 ∧ r.FactorOK ∧ r.pre = none ∧ r.post = some h ∧ r.inversion = none :=
  ⟨sub_lt_sub_right hp _, fun _ => zero_ne_one, rfl, rfl, rfl⟩

theorem namedPostObject_lawful (h : Hook ℝ) (p0 p1 x : ℝ) (off neg : Bool) (hp : p0 < p1)
    (hlaw : h.LawfulAt ((x - p0) / (p1 - p0))) (hpos : ∀ u, 0 < (h.fwd u).2)
    (hder : HasDerivAt (fun t => (h.fwd t).1) (h.fwd ((x - p0) / (p1 - p0))).2 ((x - p0) / (p1 - p0))) :
    let r := namedPostObject h p0 p1 off
    ((rtbInv r (rtbFwd r neg x).1).1 = x ∧ (rtbFwd r neg x).2 * (rtbInv r (rtbFwd r neg x).1).2 = 1 ∧
      0 < (rtbFwd r neg x).2 ∧ 0 < (rtbInv r (rtbFwd r neg x).1).2) ∧
    ∃ d, HasDerivAt (fun t => (rtbFwd r neg t).1) d x ∧ |d| = (rtbFwd r neg x).2 := by
  intro r
  obtain ⟨hb, hf, hpre, hpost, hinv⟩ := namedPostObject_facts h p0 p1 off hp
  have hz : (rtbCore r neg (r.preF x).1).1 = (x - p0) / (p1 - p0) := namedPostObject_core h p0 p1 x off neg
  have hL := rtb_lawful_pos r neg x hb hf (fun h => by rw [Rtb.reflects, hinv] at h; cases h.1)
    ⟨⟨rfl, one_mul 1⟩, by rw [hz]; exact hlaw⟩ ⟨one_pos, hpos _⟩
  obtain ⟨d, hd, habs⟩ := rtbFwd_hasDerivAt r neg x hb (hasDerivAt_id x) (by rw [hz]; exact hder)
  exact ⟨hL, d, hd, by rw [habs, abs_of_pos hL.2.2.1]⟩

end NessaiVerif.Reparam
