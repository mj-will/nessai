import NessaiVerif.Model.Reparam
import Mathlib.Algebra.Order.Field.Basic
import Mathlib.Tactic.Ring
import Mathlib.Tactic.FieldSimp
/-
C07 — the model is written over bare operation classes, so it has its own `two`, `absK`, `maxK`, `minK`, `ptp`; over a linearly
ordered field these are `2`, `|·|`, `max`, `min`, `|b − a|` (`two_eq` … `ptp_eq`), and the proofs work with Mathlib's from there.
-/
namespace NessaiVerif.Reparam

section Field
variable {K : Type} [Field K]

theorem two_eq : (two : K) = 2 := by unfold two; norm_num

/-- the factors multiply to one ⇔ the two log-Jacobians the code reports are negatives of each other -/
def ScalarLawfulAt (f g : K → K × K) (x : K) : Prop :=
  (g (f x).1).1 = x ∧ (f x).2 * (g (f x).1).2 = 1

theorem z2o_lawful (a b x : K) (h : a ≠ b) :
    (inverseRescaleZeroToOne (rescaleZeroToOne x a b).1 a b).1 = x ∧
    (rescaleZeroToOne x a b).2 * (inverseRescaleZeroToOne (rescaleZeroToOne x a b).1 a b).2 = 1 :=
  have hne : b - a ≠ 0 := sub_ne_zero.mpr h.symm
  ⟨by simp only [rescaleZeroToOne, inverseRescaleZeroToOne, mul_div_cancel₀ _ hne, sub_add_cancel], one_div_mul_cancel hne⟩

theorem iz2o_lawful (a b y : K) (h : a ≠ b) :
    (rescaleZeroToOne (inverseRescaleZeroToOne y a b).1 a b).1 = y := by
  simp only [rescaleZeroToOne, inverseRescaleZeroToOne, add_sub_cancel_right, mul_div_cancel_left₀ _ (sub_ne_zero.mpr h.symm)]

theorem m2o_lawful [NeZero (2 : K)] (a b x : K) (h : a ≠ b) :
    (inverseRescaleMinusOneToOne (rescaleMinusOneToOne x a b).1 a b).1 = x ∧
    (rescaleMinusOneToOne x a b).2 * (inverseRescaleMinusOneToOne (rescaleMinusOneToOne x a b).1 a b).2 = 1 := by
  have hne : b - a ≠ 0 := sub_ne_zero.mpr (Ne.symm h)
  have h2 : (2 : K) ≠ 0 := NeZero.ne 2
  simp only [rescaleMinusOneToOne, inverseRescaleMinusOneToOne, two_eq]
  constructor
  · field_simp; ring
  · field_simp

def Hook.LawfulAt (h : Hook K) (x : K) : Prop := ScalarLawfulAt h.fwd h.inv x

theorem Hook.id_lawful (x : K) : (Hook.id : Hook K).LawfulAt x := by
  simp [Hook.LawfulAt, ScalarLawfulAt, Hook.id]

end Field

section Order
variable {K : Type} [LinearOrder K]

theorem maxK_eq (a b : K) : maxK a b = max a b := by
  unfold maxK; split
  · rw [max_eq_right (le_of_lt ‹_›)]
  · rw [max_eq_left (not_lt.mp ‹_›)]

theorem minK_eq (a b : K) : minK a b = min a b := by
  unfold minK; split
  · rw [min_eq_right (le_of_lt ‹_›)]
  · rw [min_eq_left (not_lt.mp ‹_›)]

end Order

variable {K : Type} [Field K] [LinearOrder K] [IsStrictOrderedRing K]

theorem absK_eq (a : K) : absK a = |a| := by
  unfold absK; split
  · rw [abs_of_neg ‹_›]
  · rw [abs_of_nonneg (not_lt.mp ‹_›)]

theorem ptp_eq (a b : K) : ptp a b = |b - a| := by
  unfold ptp; rw [maxK_eq, minK_eq, max_sub_min_eq_abs]

theorem ptp_nonneg (a b : K) : 0 ≤ ptp a b := by rw [ptp_eq]; exact abs_nonneg _

theorem ptp_ne_zero {a b : K} (h : a ≠ b) : ptp a b ≠ 0 := by
  rw [ptp_eq]; exact abs_ne_zero.mpr (sub_ne_zero.mpr (Ne.symm h))

theorem ptp_of_le {a b : K} (h : a ≤ b) : ptp a b = b - a := by
  rw [ptp_eq, abs_of_nonneg (sub_nonneg.mpr h)]

theorem two_ne_zero' : (2 : K) ≠ 0 := two_ne_zero

/-- the reported factor is a non-negative constant and equals the absolute slope of the map:
for a one-dimensional map this is exactly `|det J|`. -/
def AffineJ (f : K → K × K) : Prop :=
  ∃ J : K, 0 ≤ J ∧ (∀ x, (f x).2 = J) ∧ ∀ x y, |(f x).1 - (f y).1| = J * |x - y|

theorem AffineJ.comp {f g : K → K × K} (hf : AffineJ f) (hg : AffineJ g) :
    AffineJ (fun x => ((g (f x).1).1, (f x).2 * (g (f x).1).2)) := by
  obtain ⟨Jf, hJf, hcf, hdf⟩ := hf
  obtain ⟨Jg, hJg, hcg, hdg⟩ := hg
  refine ⟨Jf * Jg, mul_nonneg hJf hJg, fun x => by simp [hcf, hcg], fun x y => ?_⟩
  simp only
  rw [hdg, hdf]; ring

theorem AffineJ.id : AffineJ (fun x : K => (x, 1)) :=
  ⟨1, zero_le_one, fun _ => rfl, fun x y => by simp⟩

theorem AffineJ.of_affine {f : K → K × K} {c d : K} (hv : ∀ x, (f x).1 = c * x + d) (hj : ∀ x, (f x).2 = |c|) :
    AffineJ f :=
  ⟨|c|, abs_nonneg c, hj, fun x y => by rw [hv, hv, ← abs_mul]; congr 1; ring⟩

theorem Hook.affine_lawful (a b x : K) (ha : a ≠ 0) : (Hook.affine a b).LawfulAt x := by
  have habs : |a| ≠ 0 := abs_ne_zero.mpr ha
  unfold Hook.LawfulAt ScalarLawfulAt Hook.affine
  simp only [absK_eq]
  constructor
  · field_simp; ring
  · field_simp

theorem Hook.affine_affineJ (a b : K) : AffineJ (Hook.affine a b).fwd :=
  .of_affine (fun _ => rfl) (fun _ => absK_eq a)

end NessaiVerif.Reparam
