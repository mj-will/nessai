import NessaiVerif.Model.LoopsRun
import Mathlib.Order.Basic
import Mathlib.Algebra.Order.Ring.Rat
import Mathlib.Algebra.Field.Defs
/- C15 — lemmas about the loop model: the skeleton `runLoop` is a search for the first stop index. -/
namespace NessaiVerif.Loops

variable {σ : Type}

theorem iter_succ (body : σ → σ) (k : Nat) (s : σ) : iter body (k + 1) s = body (iter body k s) := by
  induction k generalizing s with
  | zero => rfl
  | succ k ih => exact ih (body s)

theorem iter_succ' (body : σ → σ) (k : Nat) (s : σ) : iter body (k + 1) s = iter body k (body s) := rfl

theorem iter_fixed {α : Type} (f : σ → α) {body : σ → σ} (h : ∀ s, f (body s) = f s) (j : Nat) (s : σ) :
    f (iter body j s) = f s := by
  induction j generalizing s with
  | zero => rfl
  | succ j ih => rw [iter, ih, h]

theorem iter_count (c : σ → Int) {body : σ → σ} (h : ∀ s, c (body s) = c s + 1) (j : Nat) (s : σ) :
    c (iter body j s) = c s + j := by
  induction j generalizing s with
  | zero => simp [iter]
  | succ j ih => rw [iter, ih, h]; omega

theorem stopAt_zero (w top bot : σ → Bool) (body : σ → σ) (s : σ) :
    stopAt w top bot body s 0 = (!w s || top s) := by
  simp [stopAt, iter]

theorem runLoop_eq_find (w top bot : σ → Bool) (body : σ → σ) (fuel : Nat) (s : σ) (k0 : Nat) :
    runLoop w top bot body fuel s k0 =
      ((List.range (fuel + 1)).find? (stopAt w top bot body s)).map fun j => (k0 + j, iter body j s) := by
  induction fuel generalizing s k0 with
  | zero => simp [runLoop, stopAt_zero, iter, List.range_succ]
  | succ fuel ih =>
    rw [List.range_succ_eq_map, List.find?_cons, stopAt_zero, runLoop]
    by_cases h0 : (!w s || top s) = true
    · rcases Bool.or_eq_true _ _ |>.mp h0 with h | h <;> simp [h, iter]
    · simp only [Bool.or_eq_true, Bool.not_eq_true', not_or, Bool.not_eq_false, Bool.not_eq_true] at h0
      simp only [h0.1, h0.2, Bool.not_true, Bool.false_eq_true, if_false, Bool.or_self]
      by_cases hb : bot (body s) = true
      · have h1 : stopAt w top bot body s 1 = true := by simp [stopAt, iter, hb]
        simp [hb, List.range_succ_eq_map, h1, iter]
      · have hb' : bot (body s) = false := by simpa using hb
        -- the bottom test did not fire after the first body: the search goes on from `body s`, one index down
        have hsucc : stopAt w top bot body s ∘ Nat.succ = stopAt w top bot body (body s) := by
          funext j
          cases j <;> simp [stopAt, iter, hb']
        simp only [hb', Bool.false_eq_true, if_false, ih, List.find?_map, hsucc, Option.map_map]
        congr 1
        funext j
        simp [iter, Nat.add_assoc, Nat.add_comm 1 j]

/-- `P` is the caller's Prop-level reading of the generated guards (`C15.StdStop`, `C15.InsStop`); the skeleton knows only
`stopAt` -/
theorem runLoop_first_iff {w top bot : σ → Bool} {body : σ → σ} {s : σ} {P : Nat → Prop}
    (hP : ∀ j, stopAt w top bot body s j = true ↔ P j) (fuel k : Nat) (s' : σ) :
    runLoop w top bot body fuel s 0 = some (k, s') ↔
      (k ≤ fuel ∧ s' = iter body k s ∧ P k ∧ ∀ j, j < k → ¬ P j) := by
  simp only [runLoop_eq_find, Option.map_eq_some_iff, List.find?_range_eq_some, List.mem_range, Prod.mk.injEq,
    Nat.zero_add, Nat.lt_succ_iff, Bool.not_eq_true', ← hP, Bool.not_eq_true]
  constructor
  · rintro ⟨j, ⟨hj, hle, hmin⟩, rfl, rfl⟩; exact ⟨hle, rfl, hj, hmin⟩
  · rintro ⟨hle, rfl, hj, hmin⟩; exact ⟨k, ⟨hj, hle, hmin⟩, rfl, rfl⟩

theorem runLoop_isSome {w top bot : σ → Bool} {body : σ → σ} {s : σ} {P : Nat → Prop}
    (hP : ∀ j, stopAt w top bot body s j = true ↔ P j) (fuel : Nat) (h : ∃ j, j ≤ fuel ∧ P j) :
    ∃ k s', runLoop w top bot body fuel s 0 = some (k, s') := by
  obtain ⟨j, hj, hs⟩ := h
  have : ((List.range (fuel + 1)).find? (stopAt w top bot body s)).isSome :=
    List.find?_isSome.mpr ⟨j, List.mem_range.mpr (by omega), (hP j).mpr hs⟩
  obtain ⟨i, hi⟩ := Option.isSome_iff_exists.mp this
  exact ⟨_, _, by rw [runLoop_eq_find, hi]; rfl⟩

theorem Cap.ge_iff (it : Int) (cap : Cap) : Cap.ge it cap = true ↔ ∃ m, cap = Cap.fin m ∧ m ≤ it := by
  cases cap <;> simp [Cap.ge]

theorem finaliseLoop_spec {α : Type} (nl : Nat → Int) (ps : List α) (i : Nat) (acc : FinAcc α) :
    finaliseLoop nl ps i acc = ⟨acc.incs ++ (ps.zipIdx i).map (fun q => (q.1, nl q.2)), acc.nested ++ ps⟩ := by
  induction ps generalizing i acc with
  | nil => simp [finaliseLoop]
  | cons p ps ih => simp [finaliseLoop, ih, List.zipIdx_cons]

section run
open NessaiVerif.Gen.Loops
variable {K : Type} [LT K] [LE K] [DecidableLT K] [DecidableLE K]

omit [LT K] [LE K] [DecidableLT K] [DecidableLE K] in
theorem stdFinalise_eq (s : Std K) :
    stdFinalise s = { s with incs := s.incs ++ (s.live.getD []).zipIdx.map (fun q => (q.1, s.nlive - (q.2 : Int))),
                             nested := s.nested ++ s.live.getD [], live := none, finalised := true } := by
  simp [stdFinalise, finaliseLoop_spec, finaliseNlive, finaliseClearsLive, finaliseSetsFlag]

theorem stdRun_of_not_finalised (body : Std K → Std K) (fuel : Nat) {s : Std K} (hnf : s.finalised = false) :
    stdRun body fuel s = (runLoop stdWhile stdTop stdBot body fuel s 0).map fun r =>
      (r.1, if stdFinaliseGuard r.2 then stdFinalise r.2 else r.2) := by
  unfold stdRun
  rw [stdEntryReturn, hnf]
  cases runLoop stdWhile stdTop stdBot body fuel s 0 <;> rfl

omit [LT K] [DecidableLT K] in
theorem insRun_of_not_finalised (body : Ins K → Ins K) (fuel : Nat) {s : Ins K} (hnf : s.finalised = false) :
    insRun body fuel s = (runLoop insWhile insTop insBot body fuel s 0).map fun r => (r.1, insFinalise r.2) := by
  unfold insRun
  rw [insEntryReturn, hnf]
  cases runLoop insWhile insTop insBot body fuel s 0 <;> rfl

end run

-- `Ext` is a linear order, so every order theorem applies to the driver's instantiation

theorem Ext.le_def (a b : Ext) : a ≤ b ↔ Ext.le a b = true := Iff.rfl
theorem Ext.lt_def (a b : Ext) : a < b ↔ Ext.le b a = false := Iff.rfl

instance : LinearOrder Ext where
  le_refl a := by cases a <;> simp [Ext.le_def, Ext.le]
  le_trans a b c := by
    cases a <;> cases b <;> cases c <;> simp [Ext.le_def, Ext.le]
    exact fun h1 h2 => le_trans h1 h2
  le_antisymm a b := by
    cases a <;> cases b <;> simp [Ext.le_def, Ext.le]
    exact fun h1 h2 => le_antisymm h1 h2
  le_total a b := by
    cases a <;> cases b <;> simp [Ext.le_def, Ext.le]
    exact le_total _ _
  lt_iff_le_not_ge a b := by
    cases a <;> cases b <;> simp [Ext.le_def, Ext.lt_def, Ext.le]
    exact fun h => le_of_lt h
  toDecidableLE := inferInstance
  toDecidableLT := inferInstance
  toDecidableEq := inferInstance

theorem resolveNames_singleton (table : List (String × List String)) (x : String) :
    resolveNames table [x] = (table.filter fun e => e.2.contains x).map (·.1) := by
  simp [resolveNames]

theorem resolveNames_cons (table : List (String × List String)) (x : String) (xs : List String) :
    resolveNames table (x :: xs) = resolveNames table [x] ++ resolveNames table xs := by
  simp [resolveNames]

theorem resolveNames_unknown (table : List (String × List String)) (names : List String)
    (h : ∀ x ∈ names, x ∉ allAliases table) : resolveNames table names = [] := by
  simp only [resolveNames, List.flatMap_eq_nil_iff, List.map_eq_nil_iff, List.filter_eq_nil_iff]
  intro x hx e he hc
  exact h x hx (List.mem_flatMap.mpr ⟨e, he, by simpa using hc⟩)

theorem canonOf_of_resolveNames_single {table : List (String × List String)} {x c : String}
    (h : resolveNames table [x] = [c]) : canonOf table x = some c := by
  rw [resolveNames_singleton] at h
  rw [canonOf, ← List.head?_filter, ← List.head?_map, h, List.head?_cons]

theorem resolveNames_user_order (table : List (String × List String)) (names : List String)
    (h : ∀ x ∈ names, ∃ c, resolveNames table [x] = [c]) :
    (resolveNames table names).map some = names.map (canonOf table) := by
  induction names with
  | nil => rfl
  | cons x xs ih =>
    obtain ⟨c, hc⟩ := h x List.mem_cons_self
    rw [resolveNames_cons, hc, List.map_cons, canonOf_of_resolveNames_single hc,
      ← ih fun y hy => h y (List.mem_cons_of_mem _ hy)]
    rfl

theorem any_zipWith_iff_index {α β : Type} (f : α → β → Bool) (c : List α) (t : List β) :
    (List.zipWith f c t).any id = true ↔ ∃ i, ∃ (h1 : i < c.length) (h2 : i < t.length), f c[i] t[i] = true := by
  simp only [List.any_eq_true, List.mem_iff_getElem, List.length_zipWith, Nat.lt_min, id]
  constructor
  · rintro ⟨_, ⟨i, ⟨h1, h2⟩, rfl⟩, h⟩; exact ⟨i, h1, h2, by simpa using h⟩
  · rintro ⟨i, h1, h2, h⟩; exact ⟨_, ⟨i, ⟨h1, h2⟩, rfl⟩, by simpa using h⟩

theorem all_zipWith_iff_index {α β : Type} (f : α → β → Bool) (c : List α) (t : List β) :
    (List.zipWith f c t).all id = true ↔ ∀ i, ∀ (h1 : i < c.length) (h2 : i < t.length), f c[i] t[i] = true := by
  simp only [List.all_eq_true, List.mem_iff_getElem, List.length_zipWith, Nat.lt_min, id]
  constructor
  · intro h i h1 h2; simpa using h _ ⟨i, ⟨h1, h2⟩, rfl⟩
  · rintro h _ ⟨i, ⟨h1, h2⟩, rfl⟩; simpa using h i h1 h2

variable {K : Type} [Field K]

theorem sumK_eq_sum (ws : List K) : sumK ws = ws.sum := by
  induction ws with
  | nil => simp [sumK]
  | cons w ws ih => simp [sumK, ih]

end NessaiVerif.Loops
