import NessaiVerif.Proofs.Quadrature
/-
C02 over a linearly ordered field: the volumes decrease, evidence and weights are non-negative, and the lower and the upper
Riemann sum of a non-decreasing likelihood over the shrinking volumes differ by at most
(largest interval) × (total rise of the likelihood).
-/
namespace NessaiVerif.Quad

section ordered
variable {K : Type} [Field K] [LinearOrder K]

/-- shrinkage factors strictly between 0 and 1, as the expected `t = tOfN n = n/(n+1)` of a live count `n ≥ 1` is -/
def Unit01 (ts : List K) : Prop := ∀ t ∈ ts, 0 < t ∧ t < 1

theorem unit01_of_sched (shrink : Nat → K) (hs : ∀ m, 1 ≤ m → 0 < shrink m ∧ shrink m < 1)
    (ns : List Nat) (h : ∀ m ∈ ns, 1 ≤ m) : Unit01 (ns.map shrink) :=
  List.forall_mem_map.mpr fun m hm => hs m (h m hm)

/-- each entry is at most the next, as the likelihoods of the nested samples are -/
def NonDecr : List K → Prop
  | a :: b :: rest => a ≤ b ∧ NonDecr (b :: rest)
  | _ => True

theorem nonDecr_append_last (l : List K) (h : NonDecr l) : NonDecr (l ++ [l.getLastD 0]) := by
  induction l using List.twoStepInduction with
  | nil => trivial
  | singleton a => exact ⟨le_rfl, trivial⟩
  | cons_cons a b rest _ ih =>
    have := ih b h.2
    simp only [List.cons_append, List.getLastD_cons] at this ⊢
    exact ⟨h.1, this⟩

theorem closedL_nonneg (ls : List K) (hL : ∀ l ∈ ls, 0 ≤ l) : ∀ x ∈ closedL ls, 0 ≤ x := by
  intro x hx
  simp only [closedL, List.mem_append, List.mem_singleton] at hx
  rcases hx with (rfl | hx) | rfl
  · exact le_refl _
  · exact hL x hx
  · rcases List.mem_cons.mp (List.getLastD_mem_cons (l := ls) (a := 0)) with h | h
    · exact h.ge
    · exact hL _ h

variable [IsStrictOrderedRing K]

theorem volsFrom_anti (w : K) (hw : 0 < w) (ts : List K) (h : Unit01 ts) :
    (volsFrom w ts).Pairwise (fun a b => b < a) ∧ ∀ x ∈ volsFrom w ts, 0 < x ∧ x ≤ w := by
  induction ts generalizing w with
  | nil => simpa [volsFrom, cumprodFrom] using hw
  | cons t ts ih =>
    obtain ⟨⟨ht0, ht1⟩, hts⟩ := List.forall_mem_cons.mp h
    obtain ⟨hp, hb⟩ := ih (w * t) (mul_pos hw ht0) hts
    have hlt : w * t < w := mul_lt_of_lt_one_right hw ht1
    rw [volsFrom_cons]
    refine ⟨List.pairwise_cons.mpr ⟨fun x hx => (hb x hx).2.trans_lt hlt, hp⟩, ?_⟩
    rw [List.forall_mem_cons]
    exact ⟨⟨hw, le_rfl⟩, fun x hx => ⟨(hb x hx).1, ((hb x hx).2.trans_lt hlt).le⟩⟩

theorem closed_vols_pairwise (ts : List K) (h : Unit01 ts) :
    (closedX ts).Pairwise (fun a b => b < a) := by
  obtain ⟨hp, hb⟩ := volsFrom_anti 1 one_pos ts h
  refine List.pairwise_append.mpr ⟨hp, List.pairwise_singleton _ _, fun a ha b hb' => ?_⟩
  rw [List.mem_singleton.mp hb']
  exact (hb a ha).1

theorem diffs_pos_of_pairwise {xs : List K} (h : xs.Pairwise (fun a b => b < a)) :
    ∀ d ∈ diffs xs, 0 < d := by
  induction xs using List.twoStepInduction with
  | nil => simp [diffs]
  | singleton => simp [diffs]
  | cons_cons a b xs _ ih =>
    rw [List.pairwise_cons] at h
    rw [diffs, List.forall_mem_cons]
    exact ⟨sub_pos.mpr (h.1 b List.mem_cons_self), ih b h.2⟩

theorem diffs_closedX_pos (ts : List K) (h : Unit01 ts) : ∀ d ∈ diffs (closedX ts), 0 < d :=
  diffs_pos_of_pairwise (closed_vols_pairwise ts h)

theorem avgs_nonneg {f : List K} (h : ∀ x ∈ f, 0 ≤ x) : ∀ a ∈ avgs f, 0 ≤ a := by
  induction f using List.twoStepInduction with
  | nil => simp [avgs]
  | singleton => simp [avgs]
  | cons_cons a b f _ ih =>
    obtain ⟨ha, hf⟩ := List.forall_mem_cons.mp h
    have hb := hf b List.mem_cons_self
    rw [avgs, List.forall_mem_cons]
    exact ⟨by positivity, ih b hf⟩

theorem dot_nonneg {as bs : List K} (ha : ∀ a ∈ as, 0 ≤ a) (hb : ∀ b ∈ bs, 0 < b) : 0 ≤ dot as bs := by
  induction as generalizing bs with
  | nil => exact le_rfl
  | cons a as ih =>
    cases bs with
    | nil => exact le_rfl
    | cons b bs =>
      rw [List.forall_mem_cons] at ha hb
      exact add_nonneg (mul_nonneg ha.1 hb.1.le) (ih ha.2 hb.2)

theorem dot_pos {as bs : List K} (ha : ∀ a ∈ as, 0 ≤ a) (hb : ∀ b ∈ bs, 0 < b)
    (hlen : as.length ≤ bs.length) (hex : ∃ a ∈ as, 0 < a) : 0 < dot as bs := by
  induction as generalizing bs with
  | nil => exact absurd hex (by simp)
  | cons a as ih =>
    cases bs with
    | nil => exact absurd hlen (by simp)
    | cons b bs =>
      rw [List.forall_mem_cons] at ha hb
      rcases List.or_exists_of_exists_mem_cons hex with hpos | hex
      · exact add_pos_of_pos_of_nonneg (mul_pos hpos hb.1) (dot_nonneg ha.2 hb.2)
      · exact add_pos_of_nonneg_of_pos (mul_nonneg ha.1 hb.1.le)
          (ih ha.2 hb.2 (Nat.le_of_succ_le_succ hlen) hex)

theorem evidence_nonneg (ls ts : List K) (hL : ∀ l ∈ ls, 0 ≤ l) (ht : Unit01 ts) :
    0 ≤ evidence ls ts :=
  dot_nonneg (avgs_nonneg (closedL_nonneg ls hL)) (diffs_closedX_pos ts ht)

theorem weights_nonneg (ls ts : List K) (hL : ∀ l ∈ ls, 0 ≤ l) (ht : Unit01 ts) :
    ∀ w ∈ weights ls ts, 0 ≤ w := by
  intro w hw
  obtain ⟨l, hl, d, hd, rfl⟩ := postWeights_mem hw
  exact div_nonneg (mul_nonneg (closedL_nonneg ls hL l hl) (diffs_closedX_pos ts ht d hd).le)
    (evidence_nonneg ls ts hL ht)

/-- the idea: the difference is `Σ (f_{i+1} - f_i) d_i`; each term lies between `0` and `(f_{i+1} - f_i) D`,
and the rises telescope -/
theorem upper_sub_lower_le (D : K) (f d : List K) (h : d.length + 1 = f.length) (hf : NonDecr f)
    (hd : ∀ x ∈ d, 0 ≤ x ∧ x ≤ D) :
    0 ≤ upperSum f d - lowerSum f d ∧ upperSum f d - lowerSum f d ≤ D * (f.getLastD 0 - f.headD 0) := by
  induction d generalizing f with
  | nil =>
    match f, h with
    | [a], _ => simp [upperSum, lowerSum, dot]
  | cons d0 ds ih =>
    match f, h, hf with
    | a :: b :: fs', h, ⟨hab, hf⟩ =>
      rw [List.forall_mem_cons] at hd
      obtain ⟨r1, r2⟩ := ih (b :: fs') (Nat.succ.inj h) hf hd.2
      have t1 : 0 ≤ (b - a) * d0 := mul_nonneg (sub_nonneg.mpr hab) hd.1.1
      have t2 : (b - a) * d0 ≤ (b - a) * D := mul_le_mul_of_nonneg_left hd.1.2 (sub_nonneg.mpr hab)
      simp only [upperSum, lowerSum, dot, List.tail_cons, List.headD_cons, List.getLastD_cons] at r1 r2 ⊢
      constructor <;> linarith

end ordered

theorem unit01_example : Unit01 [(1 : ℚ) / 2, 2 / 3] := by
  intro t ht; simp at ht; rcases ht with rfl | rfl <;> norm_num

theorem nonneg_example : ∀ l ∈ [(0 : ℚ), 3], 0 ≤ l := by
  intro l hl; simp at hl; rcases hl with rfl | rfl <;> norm_num

end NessaiVerif.Quad
