import NessaiVerif.Model.LivePoint
/-
Lemmas for C18 (live-point conversions).  Under `Fresh` (no repeated field name) every conversion returns the one value
`canon cfg r names nsp data`, and reading the parameters back from it by name gives `data` again, as rows or, through
`transpose`, as columns.  The registry is a fold of `addOne` over (name, default) pairs, in which the first registration
of a name wins (`firstOcc`).  Core Lean only.
-/
namespace NessaiVerif.LivePoint

variable {V : Type}

theorem transpose_zero (rows : List (List V)) : transpose 0 rows = [] := by
  induction rows with
  | nil => rfl
  | cons row rest ih => simp [transpose, ih]

theorem length_transpose {k : Nat} {rows : List (List V)} (h : ∀ row ∈ rows, row.length = k) :
    (transpose k rows).length = k := by
  induction rows with
  | nil => simp [transpose]
  | cons row rest ih =>
    rw [transpose, List.length_zipWith, ih fun r hr => h r (List.mem_cons_of_mem _ hr),
      h row (List.mem_cons_self ..), Nat.min_self]

theorem length_of_mem_transpose (k : Nat) (rows : List (List V)) :
    ∀ c ∈ transpose k rows, c.length = rows.length := by
  induction rows with
  | nil => exact fun c hc => (List.eq_of_mem_replicate hc).symm ▸ rfl
  | cons row rest ih =>
    intro c hc
    rw [transpose, List.mem_iff_getElem] at hc
    obtain ⟨j, hj, rfl⟩ := hc
    rw [List.getElem_zipWith, List.length_cons, List.length_cons, ih _ (List.getElem_mem _)]

theorem transpose_zipWith_cons (n : Nat) (row : List V) (cols : List (List V)) (h : row.length = cols.length) :
    transpose (n + 1) (List.zipWith (· :: ·) row cols) = row :: transpose n cols := by
  induction row generalizing cols with
  | nil => cases cols with
    | nil => rfl
    | cons c cs => cases h
  | cons a row ih => cases cols with
    | nil => cases h
    | cons c cs => simp [transpose, ih cs (Nat.succ.inj h)]

theorem transpose_transpose {k : Nat} {rows : List (List V)} (h : ∀ row ∈ rows, row.length = k) :
    transpose rows.length (transpose k rows) = rows := by
  induction rows with
  | nil => simp [transpose_zero]
  | cons row rest ih =>
    have hr : ∀ r ∈ rest, r.length = k := fun r hr => h r (List.mem_cons_of_mem _ hr)
    show transpose (rest.length + 1) (List.zipWith (· :: ·) row (transpose k rest)) = row :: rest
    rw [transpose_zipWith_cons _ _ _ ((h row (List.mem_cons_self ..)).trans (length_transpose hr).symm), ih hr]

theorem transpose_singletons (vals : List V) : transpose 1 (vals.map fun v => [v]) = [vals] := by
  induction vals with
  | nil => rfl
  | cons v vs ih => rw [List.map_cons, transpose, ih]; rfl

theorem getCol_nil (j : Nat) : getCol j ([] : List (List V)) = [] := rfl

theorem getCol_cons {j : Nat} {row : List V} {x : V} (h : row[j]? = some x) (rest : List (List V)) :
    getCol j (row :: rest) = x :: getCol j rest := by
  simp [getCol, h]

theorem getCol_const {j : Nat} {rows : List (List V)} {x : V} (h : ∀ row ∈ rows, row[j]? = some x) :
    getCol j rows = List.replicate rows.length x := by
  induction rows with
  | nil => rfl
  | cons row rest ih =>
    rw [getCol_cons (h row (List.mem_cons_self ..)), ih fun r hr => h r (List.mem_cons_of_mem _ hr)]
    rfl

theorem getElem?_transpose {k : Nat} {rows : List (List V)} (h : ∀ row ∈ rows, row.length = k)
    {j : Nat} (hj : j < k) : (transpose k rows)[j]? = some (getCol j rows) := by
  induction rows with
  | nil => simp [transpose, getCol, hj]
  | cons row rest ih =>
    have hjr : j < row.length := h row (List.mem_cons_self ..) ▸ hj
    rw [transpose, List.getElem?_zipWith, List.getElem?_eq_getElem hjr,
      ih fun r hr => h r (List.mem_cons_of_mem _ hr), getCol_cons (List.getElem?_eq_getElem hjr)]

theorem filterMap_congr' {α β : Type} {l : List α} {f g : α → Option β} (h : ∀ x ∈ l, f x = g x) :
    l.filterMap f = l.filterMap g := by
  induction l with
  | nil => rfl
  | cons a l ih =>
    rw [List.filterMap_cons, List.filterMap_cons, h a (List.mem_cons_self ..),
      ih fun x hx => h x (List.mem_cons_of_mem _ hx)]

theorem getCol_map_append {j : Nat} {rows : List (List V)} (t : List V)
    (h : ∀ row ∈ rows, j < row.length) : getCol j (rows.map (· ++ t)) = getCol j rows := by
  rw [getCol, getCol, List.filterMap_map]
  exact filterMap_congr' fun row hr => List.getElem?_append_left (h row hr)

theorem getCol_map_append_right {j k : Nat} {rows : List (List V)} {t : List V} {x : V}
    (h : ∀ row ∈ rows, row.length = k) (hx : t[j]? = some x) :
    getCol (k + j) (rows.map (· ++ t)) = List.replicate rows.length x := by
  refine (getCol_const fun row' hr' => ?_).trans (by rw [List.length_map])
  obtain ⟨row, hr, rfl⟩ := List.mem_map.1 hr'
  rw [List.getElem?_append_right (by rw [h row hr]; omega), h row hr, Nat.add_sub_cancel_left, hx]

theorem getElem?_filterMap_all_some {α β : Type} {l : List α} {g : α → Option β}
    (h : ∀ a ∈ l, (g a).isSome = true) (j : Nat) : (l.filterMap g)[j]? = l[j]?.bind g := by
  induction l generalizing j with
  | nil => simp
  | cons a l ih =>
    obtain ⟨b, hb⟩ := Option.isSome_iff_exists.mp (h a (List.mem_cons_self ..))
    rw [List.filterMap_cons, hb]
    cases j with
    | zero => rw [List.getElem?_cons_zero, List.getElem?_cons_zero, Option.bind_some, hb]
    | succ j =>
      rw [List.getElem?_cons_succ, List.getElem?_cons_succ, ih fun x hx => h x (List.mem_cons_of_mem _ hx)]

theorem map_eq_zip {β : Type} {F : String → β} {l : List String} {cols : List β} (hl : cols.length = l.length)
    (h : ∀ (j : Nat) (f : String), l[j]? = some f → cols[j]? = some (F f)) :
    l.map (fun f => (f, F f)) = l.zip cols := by
  induction l generalizing cols with
  | nil => rfl
  | cons a l ih =>
    cases cols with
    | nil => cases hl
    | cons c cols =>
      rw [List.map_cons, List.zip_cons_cons, Option.some.inj (h 0 a rfl),
        ih (Nat.succ.inj hl) fun j f hf => h (j + 1) f hf]

theorem map_modify {α β : Type} {f : α → β} {g : α → α} {g' : β → β} (h : ∀ a, f (g a) = g' (f a))
    (l : List α) (i : Nat) : (l.modify i g).map f = (l.map f).modify i g' := by
  apply List.ext_getElem?
  intro j
  simp only [List.getElem?_map, List.getElem?_modify]
  cases l[j]? with
  | none => rfl
  | some a => by_cases hij : i = j <;> simp [hij, h]

theorem eraseDups_of_nodup {l : List String} (h : l.Nodup) : l.eraseDups = l := by
  induction l with
  | nil => rfl
  | cons a l ih =>
    rw [List.nodup_cons] at h
    rw [List.eraseDups_cons, List.filter_eq_self.2 fun b hb => ?_, ih h.2]
    simpa using fun e : b = a => h.1 (e ▸ hb)

theorem idxOf_of_getElem? {l : List String} (h : l.Nodup) {j : Nat} {f : String} (hf : l[j]? = some f) :
    l.idxOf f = j := by
  obtain ⟨hlt, rfl⟩ := List.getElem?_eq_some_iff.1 hf
  exact h.idxOf_getElem j hlt

theorem idxOf_inj_of_mem {l : List String} {a b : String} (ha : a ∈ l) (hb : b ∈ l)
    (h : l.idxOf a = l.idxOf b) : a = b := by
  rw [← List.getElem_idxOf (List.idxOf_lt_length_iff.2 ha), ← List.getElem_idxOf (List.idxOf_lt_length_iff.2 hb)]
  simp only [h]

/-- selecting the parameter fields by name from a record gives the parameter values -/
theorem filterMap_idxOf_prefix {names rest : List String} {d : List V} (t : List V)
    (hn : (names ++ rest).Nodup) (hd : d.length = names.length) :
    names.filterMap (fun f => (d ++ t)[(names ++ rest).idxOf f]?) = d := by
  apply List.ext_getElem?
  intro j
  rw [getElem?_filterMap_all_some fun f hf => by
    rw [isSome_getElem?, List.length_append, hd, List.idxOf_append, if_pos hf]
    exact Nat.lt_of_lt_of_le (List.idxOf_lt_length_iff.2 hf) (Nat.le_add_right _ _)]
  cases hj : names[j]? with
  | none => rw [Option.bind_none, List.getElem?_eq_none (by rw [hd]; exact List.getElem?_eq_none_iff.1 hj)]
  | some f =>
    have hlt : j < names.length := (List.getElem?_eq_some_iff.1 hj).1
    rw [Option.bind_some, idxOf_of_getElem? hn (by rw [List.getElem?_append_left hlt]; exact hj),
      List.getElem?_append_left (hd ▸ hlt)]

theorem scanNames_none {fields nm : List String} (seen : List String)
    (hsub : ∀ f ∈ nm, f ∈ fields) (hnd : nm.Nodup) (hseen : ∀ f ∈ nm, f ∉ seen) :
    scanNames fields seen nm = none := by
  induction nm generalizing seen with
  | nil => rfl
  | cons a nm ih =>
    rw [List.nodup_cons] at hnd
    have h1 : fields.contains a = true := List.contains_iff_mem.2 (hsub a (List.mem_cons_self ..))
    have h2 : seen.contains a = false := by simpa using hseen a (List.mem_cons_self ..)
    rw [scanNames, h1, h2]
    apply ih (a :: seen)
    · exact fun f hf => hsub f (List.mem_cons_of_mem _ hf)
    · exact hnd.2
    · intro f hf hm
      have hne : f ≠ a := fun e => hnd.1 (e ▸ hf)
      exact (List.mem_cons.1 hm).elim hne (hseen f (List.mem_cons_of_mem _ hf))

/-- the parameter names are distinct, none of them is a (registered) non-sampling field, and no extra is registered
as `logP`, `logL` or `it`: the dtype has no repeated field name -/
def Fresh (r : Registry V) (names : List String) (nsp : Bool) : Prop :=
  (names ++ nsNames r nsp).Nodup

structure LP.WF (lp : LP V) : Prop where
  nodup : lp.fields.Nodup
  nf_le : lp.nf ≤ lp.fields.length
  rect : ∀ row ∈ lp.rows, row.length = lp.fields.length

variable {cfg : Cfg V} {r : Registry V} {names : List String} {nsp : Bool}

theorem Fresh.names_nodup (h : Fresh r names nsp) : names.Nodup := (List.nodup_append.mp h).1

theorem length_tail : (tail cfg r nsp).length = (nsNames r nsp).length := by
  cases nsp <;> simp [tail, nsNames, nonSamplingDefaults, nonSamplingNames, coreNames,
    Registry.names, Registry.defaults]

theorem nfOf_le : names.length ≤ nfOf cfg names nsp ∧ nfOf cfg names nsp ≤ (names ++ nsNames r nsp).length := by
  cases nsp <;> simp [nfOf, nsNames, nonSamplingNames, coreNames]
  -- left: `nsp = true`, the 1 or 2 fields after the names against the three core names and the extras
  cases cfg.loglFloat <;> simp <;> omega

theorem getDtype_ok (h : Fresh r names nsp) :
    getDtype cfg r names nsp = .ok ⟨names ++ nsNames r nsp, nfOf cfg names nsp⟩ := by
  unfold Fresh at h
  simp [getDtype, h]

theorem getDtype_err (h : ¬ Fresh r names nsp) : getDtype cfg r names nsp = .error .valueErr := by
  unfold Fresh at h
  simp [getDtype, h]

theorem emptyStructured_zero (h : Fresh r names nsp) :
    emptyStructured cfg r 0 names nsp = .ok (canon cfg r names nsp []) := by
  rw [emptyStructured, getDtype_ok h]; rfl

theorem emptyStructured_pos (n : Nat) (h : Fresh r names nsp) (hne : names ≠ []) :
    emptyStructured cfg r n names nsp
      = .ok (canon cfg r names nsp (List.replicate n (names.map fun _ => cfg.nan))) := by
  rw [emptyStructured, getDtype_ok h]
  cases n with
  | zero => rfl
  | succ n =>
    cases names with
    | nil => exact absurd rfl hne
    | cons a l => simp [canon]

theorem emptyStructured_err (n : Nat) (h : ¬ Fresh r names nsp) :
    emptyStructured cfg r n names nsp = .error .valueErr := by
  rw [emptyStructured, getDtype_err h]

theorem numpyArray_ok (a : NpArr V) (hf : Fresh r names nsp) (hne : names ≠ []) (hc : names.length ≤ a.ncols) :
    numpyArrayToLivePoints cfg r a names nsp
      = .ok (canon cfg r names nsp (a.rows.map (·.take names.length))) := by
  have hpos : a.ncols ≠ 0 := Nat.ne_of_gt (Nat.lt_of_lt_of_le (List.length_pos_iff.2 hne) hc)
  by_cases hs : a.size = 0
  · -- no element although there are columns: a 2-d array without rows
    rw [numpyArrayToLivePoints, if_pos hs]
    cases a with
    | d1 xs => exact absurd hs hpos
    | d2 c rows =>
      rw [show rows = [] from List.eq_nil_of_length_eq_zero ((Nat.mul_eq_zero.1 hs).resolve_right hpos)]
      exact emptyStructured_zero hf
  · rw [numpyArrayToLivePoints, if_neg hs, emptyStructured_pos _ hf hne]
    simp only [if_neg (Nat.not_lt.2 hc), canon, List.map_map]
    rfl

theorem allSome_map {α : Type} {g : α → Option α} :
    ∀ {xs : List α}, (∀ x ∈ xs, g x = some x) → allSome (xs.map g) = some xs
  | [], _ => rfl
  | x :: xs, h => by
      rw [List.map_cons, h x (List.mem_cons_self ..), allSome,
        allSome_map fun y hy => h y (List.mem_cons_of_mem _ hy)]
      rfl

theorem map_zip_snd {β γ : Type} {vals : List β} (g : β → γ) (h : vals.length = names.length) :
    (names.zip vals).map (fun kv => g kv.2) = vals.map g := by
  rw [show (fun kv : String × β => g kv.2) = g ∘ Prod.snd from rfl, ← List.map_map,
    List.map_snd_zip (Nat.le_of_eq h)]

theorem allSome_scalars {vals : List V} (h : vals.length = names.length) :
    allSome ((names.zip (vals.map DVal.scalar)).map fun kv => kv.2.scalar?) = some vals := by
  rw [map_zip_snd _ (by rw [List.length_map, h]), List.map_map]
  exact allSome_map fun _ _ => rfl

theorem allSome_columns {cols : List (List V)} {n : Nat} (h : cols.length = names.length)
    (hc : ∀ c ∈ cols, c.length = n) :
    allSome ((names.zip (cols.map DVal.arr)).map fun kv => kv.2.column n) = some cols := by
  rw [map_zip_snd _ (by rw [List.length_map, h]), List.map_map]
  exact allSome_map fun c hcm => if_pos (hc c hcm)

theorem dictToLivePoints_scalars {k : String} {x : V} {rest : List (String × DVal V)} {vals : List V}
    (hk : k :: rest.map Prod.fst = names) (hf : Fresh r names nsp)
    (hv : allSome (((k, DVal.scalar x) :: rest).map fun kv => kv.2.scalar?) = some vals) :
    dictToLivePoints cfg r ((k, .scalar x) :: rest) nsp = .ok (canon cfg r names nsp [vals]) := by
  subst hk
  rw [dictToLivePoints, List.map_cons, getDtype_ok hf]
  simp only [hv]
  rfl

theorem dictToLivePoints_columns {k : String} {xs : List V} {rest : List (String × DVal V)} {cols : List (List V)}
    (hk : k :: rest.map Prod.fst = names) (hf : Fresh r names nsp)
    (hc : allSome (((k, DVal.arr xs) :: rest).map fun kv => kv.2.column xs.length) = some cols) :
    dictToLivePoints cfg r ((k, .arr xs) :: rest) nsp
      = .ok (canon cfg r names nsp (transpose xs.length cols)) := by
  subst hk
  rw [dictToLivePoints, List.map_cons, emptyStructured_pos _ hf (List.cons_ne_nil _ _)]
  simp only [hc]
  rfl

theorem dictToLivePoints_err {d : List (String × DVal V)} (hd : d ≠ []) (h : ¬ Fresh r (d.map Prod.fst) nsp) :
    dictToLivePoints cfg r d nsp = .error .valueErr := by
  match d, hd with
  | (_, .scalar _) :: _, _ => rw [dictToLivePoints, getDtype_err h]
  | (_, .arr _) :: _, _ => rw [dictToLivePoints, emptyStructured_err _ h]

theorem toArray_ok (lp : LP V) {sel : List String} (hne : sel ≠ []) (hnd : sel.Nodup)
    (hsub : ∀ f ∈ sel, f ∈ lp.fields) :
    livePointsToArray lp (some sel)
      = .ok (sel.length, lp.rows.map fun row => sel.filterMap fun f => row[lp.fields.idxOf f]?) := by
  have hscan := scanNames_none [] hsub hnd (fun _ _ h => nomatch h)
  cases sel with
  | nil => exact absurd rfl hne
  | cons a l => simp only [livePointsToArray, hscan]

theorem canon_toArray {data : List (List V)} (h : Fresh r names nsp) (hne : names ≠ [])
    (hd : ∀ row ∈ data, row.length = names.length) :
    livePointsToArray (canon cfg r names nsp data) (some names) = .ok (names.length, data) := by
  rw [toArray_ok _ hne h.names_nodup fun f hf => List.mem_append_left _ hf]
  show Except.ok (_, (data.map (· ++ tail cfg r nsp)).map _) = _
  rw [List.map_map, List.map_congr_left (g := id), List.map_id]
  exact fun d hd' => filterMap_idxOf_prefix _ h (hd d hd')

theorem toDict_ok (lp : LP V) {sel : List String} (hnd : sel.Nodup) (hsub : ∀ f ∈ sel, f ∈ lp.fields) :
    livePointsToDict lp (some sel) = .ok (sel.map fun f => (f, getCol (lp.fields.idxOf f) lp.rows)) := by
  have hall : sel.all lp.fields.contains = true :=
    List.all_eq_true.2 fun f hf => List.contains_iff_mem.2 (hsub f hf)
  simp only [livePointsToDict, hall, if_true, eraseDups_of_nodup hnd]

theorem canon_toDict {data : List (List V)} (h : Fresh r names nsp)
    (hd : ∀ row ∈ data, row.length = names.length) :
    livePointsToDict (canon cfg r names nsp data) (some names)
      = .ok (names.zip (transpose names.length data)) := by
  rw [toDict_ok _ h.names_nodup fun f hf => List.mem_append_left _ hf]
  refine congrArg Except.ok (map_eq_zip (length_transpose hd) fun j f hf => ?_)
  have hj : j < names.length := (List.getElem?_eq_some_iff.1 hf).1
  show _ = some (getCol ((names ++ nsNames r nsp).idxOf f) (data.map (· ++ tail cfg r nsp)))
  rw [idxOf_of_getElem? h (by rw [List.getElem?_append_left hj]; exact hf), getElem?_transpose hd hj,
    getCol_map_append _ fun row hr => by rw [hd row hr]; exact hj]

theorem getField_of_mem (lp : LP V) {f : String} (hf : f ∈ lp.fields) (i : Nat) :
    getField lp f i = lp.rows[i]?.bind (·[lp.fields.idxOf f]?) := by
  rw [getField]
  cases lp.rows[i]? with
  | none => rfl
  | some row => exact if_pos (List.contains_iff_mem.2 hf)

theorem getField_setField (lp : LP V) (f : String) (i : Nat) (v : V) {f' : String} (hf' : f' ∈ lp.fields)
    (i' : Nat) : getField (setField lp f i v) f' i' =
      (lp.rows[i']?.map fun row => if i = i' then row.set (lp.fields.idxOf f) v else row).bind
        (·[lp.fields.idxOf f']?) := by
  rw [getField_of_mem (setField lp f i v) hf']
  exact congrArg (Option.bind · _) (List.getElem?_modify ..)

theorem viewWidth_prefix {lp : LP V} (hw : lp.WF) {k : Nat} (hk : k ≤ lp.nf) :
    viewWidth lp (lp.fields.take k) = .ok k := by
  have hall : (lp.fields.take k).all lp.fields.contains = true :=
    List.all_eq_true.2 fun f hf => List.contains_iff_mem.2 (List.mem_of_mem_take hf)
  have hlen : (lp.fields.take k).length = k :=
    (List.length_take ..).trans (Nat.min_eq_left (Nat.le_trans hk hw.nf_le))
  have hall2 : (lp.fields.take k).all (lp.fields.take k).contains = true :=
    List.all_eq_true.2 fun f hf => List.contains_iff_mem.2 hf
  simp only [viewWidth, hall, eraseDups_of_nodup (hw.nodup.sublist (List.take_sublist k _)), hlen, hall2]
  simp [hk]

/-- first registration wins: keep the first pair of every name -/
def firstOcc : List (String × V) → List (String × V)
  | [] => []
  | p :: rest => p :: (firstOcc rest).filter (fun q => q.1 != p.1)

theorem lookup_firstOcc (l : List (String × V)) (k : String) : (firstOcc l).lookup k = l.lookup k := by
  induction l with
  | nil => rfl
  | cons p rest ih =>
    rw [firstOcc, List.lookup_cons, List.lookup_cons]
    cases h : k == p.1
    · -- the filter drops only pairs whose name is not `k`
      have hf (m : List (String × V)) : (m.filter fun q => q.1 != p.1).lookup k = m.lookup k := by
        induction m with
        | nil => rfl
        | cons q m ihm =>
          obtain ⟨a, v⟩ := q
          by_cases hq : a = p.1 <;> simp [List.lookup_cons, hq, h, ihm]
      exact (hf _).trans ih
    · rfl

def RegOp.isReset : RegOp V → Bool
  | .reset => true
  | .add _ _ => false

/-- the (name, default) pairs an operation offers to the registry (zip truncates) -/
def RegOp.pairs (cfg : Cfg V) : RegOp V → List (String × V)
  | .reset => []
  | .add ps none => ps.zip (List.replicate ps.length cfg.nan)
  | .add ps (some d) => ps.zip d

theorem foldl_addOne (r : Registry V) (l : List (String × V)) :
    (l.foldl addOne r).extras = r.extras ++ (firstOcc l).filter (fun q => !r.names.contains q.1) := by
  induction l generalizing r with
  | nil => exact (List.append_nil _).symm
  | cons p rest ih =>
    rw [List.foldl_cons, ih, firstOcc, addOne]
    split
    · -- `p` is registered: it is dropped, and so is every later pair with its name
      rename_i hp
      rw [List.filter_cons_of_neg (by rw [hp]; decide), List.filter_filter]
      refine congrArg _ (List.filter_congr fun q _ => ?_)
      cases hq : r.names.contains q.1
      · have : q.1 ≠ p.1 := fun e => by rw [e, hp] at hq; cases hq
        simp [this]
      · rfl
    · -- `p` is new: it is appended, and later pairs with its name are dropped
      rename_i hp
      rw [List.filter_cons_of_pos (by simpa using hp), List.filter_filter, List.append_assoc,
        List.singleton_append]
      refine congrArg (r.extras ++ p :: ·) (List.filter_congr fun q _ => ?_)
      show (!((r.extras ++ [p]).map Prod.fst).contains q.1) = ((!r.names.contains q.1) && (q.1 != p.1))
      simp only [List.map_append, List.contains_append, Bool.not_or, List.map_cons, List.map_nil,
        List.contains_cons, List.contains_nil, Bool.or_false]
      rfl

theorem applyOp_eq_foldl (r : Registry V) {op : RegOp V} (h : op.isReset = false) :
    applyOp cfg r op = (op.pairs cfg).foldl addOne r := by
  cases op with
  | reset => cases h
  | add ps dvs => cases dvs <;> rfl

theorem applyOps_noreset (r : Registry V) {ops : List (RegOp V)} (h : ∀ op ∈ ops, op.isReset = false) :
    applyOps cfg r ops = (ops.flatMap (RegOp.pairs cfg)).foldl addOne r := by
  induction ops generalizing r with
  | nil => rfl
  | cons op rest ih =>
    rw [List.flatMap_cons, List.foldl_append, ← applyOp_eq_foldl r (h op (List.mem_cons_self ..))]
    exact ih _ fun o ho => h o (List.mem_cons_of_mem _ ho)

theorem firstOcc_keys_nodup (l : List (String × V)) : ((firstOcc l).map Prod.fst).Nodup := by
  induction l with
  | nil => exact List.nodup_nil
  | cons p rest ih =>
    rw [firstOcc, List.map_cons, List.nodup_cons]
    refine ⟨fun hmem => ?_, (List.filter_sublist.map _).nodup ih⟩
    obtain ⟨q, hq, hqe⟩ := List.mem_map.1 hmem
    simpa [hqe] using (List.mem_filter.1 hq).2

end NessaiVerif.LivePoint
