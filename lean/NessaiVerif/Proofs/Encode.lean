import NessaiVerif.Model.Encode
/- C19, JSON side (core Lean only).
The model's functions and predicates on `Tree` are mutually recursive with their list versions; the proofs follow
that recursion and use the defining equations as definitional equalities (`KeysOkList (x :: xs)` *is*
`KeysOk x ∧ KeysOkList xs`).  `simp [f]` with one of them makes Lean derive its equation lemmas, which is slow for
this nested type: the few equations of `jsonEncode` that are needed are stated below, once. -/
namespace NessaiVerif.Encode

/-- the dispatch facts the canonical form depends on (discharged by `decide` on the generated chain) -/
structure DispatchSpec (c : Chain) (fb : Fallback) : Prop where
  npInt : defaultAction c fb .npInt = some .toInt
  npFloat : defaultAction c fb .npFloat = some .toFloat
  ndarray : defaultAction c fb .ndarray = some .tolist
  npBool : defaultAction c fb .npBool = some .toStr
  opaq : defaultAction c fb .opaque = some .toStr

/-- the model's list predicates are recursive (`PL (x :: xs)` is `P x ∧ PL xs`); this gives each its `∀ x ∈ xs, P x` form -/
theorem forall_mem_of_cons_and {α : Type} {P : α → Prop} {PL : List α → Prop} (nil : PL [])
    (cons : ∀ x xs, PL (x :: xs) ↔ P x ∧ PL xs) : ∀ xs, PL xs ↔ ∀ x ∈ xs, P x
  | [] => ⟨fun _ _ h => (nomatch h), fun _ => nil⟩
  | x :: xs => (cons x xs).trans
      ((and_congr_right' (forall_mem_of_cons_and nil cons xs)).trans List.forall_mem_cons.symm)

theorem isJsonList_iff : ∀ xs : List Tree, IsJsonList xs ↔ ∀ x ∈ xs, IsJson x :=
  forall_mem_of_cons_and trivial fun _ _ => Iff.rfl

theorem keysDistinctList_iff : ∀ xs : List Tree, KeysDistinctList xs ↔ ∀ x ∈ xs, KeysDistinct x :=
  forall_mem_of_cons_and trivial fun _ _ => Iff.rfl

theorem keysOkKvs_iff : ∀ kvs : List (Key × Tree), KeysOkKvs kvs ↔ ∀ p ∈ kvs, p.1 ≠ .bad ∧ KeysOk p.2 :=
  forall_mem_of_cons_and trivial fun (_, _) _ => and_assoc.symm

theorem keysDistinctKvs_iff : ∀ kvs : List (Key × Tree), KeysDistinctKvs kvs ↔ ∀ p ∈ kvs, KeysDistinct p.2 :=
  forall_mem_of_cons_and trivial fun (_, _) _ => Iff.rfl

theorem wellShapedKvs_iff : ∀ kvs : List (Key × Tree), WellShapedKvs kvs ↔ ∀ p ∈ kvs, WellShaped p.2 :=
  forall_mem_of_cons_and trivial fun (_, _) _ => Iff.rfl

theorem keysOf_eq_map : ∀ kvs : List (Key × Tree), keysOf kvs = kvs.map Prod.fst
  | [] => rfl
  | (k, _) :: rest => congrArg (k :: ·) (keysOf_eq_map rest)

variable {c : Chain} {fb : Fallback}

theorem jsonEncode_ndarray (dt : DT) (shape : List Nat) (flat : List Tree) :
    jsonEncode c fb (.ndarray dt shape flat) =
      if flat.length ≠ prod shape then .error .malformed else
      match defaultAction c fb .ndarray with
      | some .tolist => do pure (nest shape (← jsonEncodeList c fb flat))
      | _ => .error .type := rfl

theorem jsonEncode_structured (names : List String) (nrows : Nat) (cells : List Tree) :
    jsonEncode c fb (.structured names nrows cells) =
      if cells.length ≠ nrows * names.length then .error .malformed else
      match defaultAction c fb .ndarray with
      | some .tolist => do pure (nest [nrows, names.length] (← jsonEncodeList c fb cells))
      | _ => .error .type := rfl

theorem jsonEncode_npInt (i : Int) : jsonEncode c fb (.npInt i) =
    match defaultAction c fb .npInt with | some a => applyScalar a (.npInt i) | none => .error .type := rfl

theorem jsonEncode_npFloat (k : FKind) (b : Nat) (e : Option String) : jsonEncode c fb (.npFloat k b e) =
    match defaultAction c fb .npFloat with | some a => applyScalar a (.npFloat k b e) | none => .error .type := rfl

theorem jsonEncode_npBool (b : Bool) : jsonEncode c fb (.npBool b) =
    match defaultAction c fb .npBool with | some a => applyScalar a (.npBool b) | none => .error .type := rfl

theorem jsonEncode_opaque (r : String) : jsonEncode c fb (.opaque r) =
    match defaultAction c fb .opaque with | some a => applyScalar a (.opaque r) | none => .error .type := rfl

theorem bind_pure_ok {ε α β : Type} {x : Except ε α} {a : α} (h : x = .ok a) (f : α → β) :
    (do pure (f (← x)) : Except ε β) = .ok (f a) := by rw [h]; rfl

mutual
theorem jsonEncode_eq_canon (h : DispatchSpec c fb) :
    ∀ t : Tree, KeysOk t → WellShaped t → jsonEncode c fb t = .ok (canon t)
  | .dict kvs => fun hk hw => bind_pure_ok (jsonEncodeKvs_eq_canon h kvs hk hw) Tree.dict
  | .list xs | .tuple xs => fun hk hw => bind_pure_ok (jsonEncodeList_eq_canon h xs hk hw) Tree.list
  | .ndarray _ shape flat => fun hk ⟨hlen, hw⟩ => by
      rw [jsonEncode_ndarray, if_neg (fun hne => hne hlen), h.ndarray]
      exact bind_pure_ok (jsonEncodeList_eq_canon h flat hk hw) (nest shape)
  | .structured names nrows cells => fun hk ⟨hlen, hw⟩ => by
      rw [jsonEncode_structured, if_neg (fun hne => hne hlen), h.ndarray]
      exact bind_pure_ok (jsonEncodeList_eq_canon h cells hk hw) (nest [nrows, names.length])
  | .npInt _ => fun _ _ => by rw [jsonEncode_npInt, h.npInt]; rfl
  | .npFloat _ _ _ => fun _ _ => by rw [jsonEncode_npFloat, h.npFloat]; rfl
  | .npBool _ => fun _ _ => by rw [jsonEncode_npBool, h.npBool]; rfl
  | .opaque _ => fun _ _ => by rw [jsonEncode_opaque, h.opaq]; rfl
  | .int _ | .float _ | .str _ | .none | .bool _ | .npStr _ => fun _ _ => rfl
theorem jsonEncodeList_eq_canon (h : DispatchSpec c fb) :
    ∀ xs : List Tree, KeysOkList xs → WellShapedList xs → jsonEncodeList c fb xs = .ok (canonList xs)
  | [], _, _ => rfl
  | x :: xs, ⟨hx, hxs⟩, ⟨wx, wxs⟩ => by
      show (do let a ← jsonEncode c fb x; let b ← jsonEncodeList c fb xs; pure (a :: b)) = _
      rw [jsonEncode_eq_canon h x hx wx, jsonEncodeList_eq_canon h xs hxs wxs]; rfl
theorem jsonEncodeKvs_eq_canon (h : DispatchSpec c fb) :
    ∀ kvs : List (Key × Tree), KeysOkKvs kvs → WellShapedKvs kvs → jsonEncodeKvs c fb kvs = .ok (canonKvs kvs)
  | [], _, _ => rfl
  | (k, v) :: rest, ⟨hk, hv, hr⟩, ⟨wv, wr⟩ => by
      show (do let k' ← jsonKey k; let a ← jsonEncode c fb v; let b ← jsonEncodeKvs c fb rest
               pure ((Key.str k', a) :: b)) = _
      rw [jsonEncode_eq_canon h v hv wv, jsonEncodeKvs_eq_canon h rest hr wr]
      cases k <;> first | rfl | exact absurd rfl hk
end

theorem chunksN_spec {α : Type} (k : Nat) : ∀ (n : Nat) (xs : List α), xs.length = n * k →
    (chunksN n k xs).flatten = xs ∧ ∀ c ∈ chunksN n k xs, c.length = k
  | 0, xs, h => by
      rw [List.eq_nil_of_length_eq_zero (h.trans (Nat.zero_mul k))]
      exact ⟨rfl, nofun⟩
  | n + 1, xs, h => by
      obtain ⟨hf, hc⟩ := chunksN_spec k n (xs.drop k)
        (by rw [List.length_drop, h, Nat.succ_mul, Nat.add_sub_cancel])
      refine ⟨by rw [chunksN, List.flatten_cons, hf, List.take_append_drop], ?_⟩
      intro c hcm
      rcases List.mem_cons.1 hcm with rfl | hcm
      · rw [List.length_take, h]; exact Nat.min_eq_left (Nat.le_mul_of_pos_left k n.succ_pos)
      · exact hc c hcm

theorem chunksN_mem_sub {α : Type} (k : Nat) : ∀ (n : Nat) (xs : List α), ∀ c ∈ chunksN n k xs, ∀ x ∈ c, x ∈ xs
  | 0, _, _, hc => nomatch hc
  | n + 1, xs, c, hc => by
      rcases List.mem_cons.1 hc with rfl | hc
      · exact fun x hx => List.mem_of_mem_take hx
      · exact fun x hx => List.mem_of_mem_drop (chunksN_mem_sub k n _ c hc x hx)

theorem nest_all {P : Tree → Prop} (hnone : P .none) (hlist : ∀ ys, (∀ y ∈ ys, P y) → P (.list ys)) :
    ∀ (shape : List Nat) (xs : List Tree), (∀ x ∈ xs, P x) → P (nest shape xs)
  | [], [], _ => hnone
  | [], x :: _, h => h x (List.mem_cons_self ..)
  | n :: rest, xs, h => hlist _ fun y hy => by
      obtain ⟨c, hc, rfl⟩ := List.mem_map.1 hy
      exact nest_all hnone hlist rest c fun x hx => h x (chunksN_mem_sub _ _ _ c hc x hx)

theorem isJson_nest (shape : List Nat) (xs : List Tree) (h : ∀ x ∈ xs, IsJson x) : IsJson (nest shape xs) :=
  nest_all (P := IsJson) trivial (fun ys => (isJsonList_iff ys).2) shape xs h

theorem keysDistinct_nest (shape : List Nat) (xs : List Tree) (h : ∀ x ∈ xs, KeysDistinct x) :
    KeysDistinct (nest shape xs) :=
  nest_all (P := KeysDistinct) trivial (fun ys => (keysDistinctList_iff ys).2) shape xs h

theorem leavesList_map {α : Type} (f : α → Tree) :
    ∀ ys : List α, leavesList (ys.map f) = (ys.map fun y => leaves (f y)).flatten
  | [] => rfl
  | y :: ys => congrArg (leaves (f y) ++ ·) (leavesList_map f ys)

theorem leaves_of_isLeaf : ∀ t : Tree, IsLeaf t → leaves t = [t]
  | .list _ => False.elim
  | .dict _ | .tuple _ | .int _ | .float _ | .str _ | .none | .bool _ | .ndarray _ _ _ | .structured _ _ _
  | .npInt _ | .npFloat _ _ _ | .npBool _ | .npStr _ | .opaque _ => fun _ => rfl

/-- `tolist` keeps every element, in C order -/
theorem leaves_nest : ∀ (shape : List Nat) (xs : List Tree), (∀ x ∈ xs, IsLeaf x) → xs.length = prod shape →
    leaves (nest shape xs) = xs
  -- for the empty shape `xs.length = prod [] = 1`: no other `xs` to treat
  | [], [x], hl, _ => leaves_of_isLeaf x (hl x (List.mem_singleton_self x))
  | n :: rest, xs, hl, hlen => by
      obtain ⟨hf, hc⟩ := chunksN_spec (prod rest) n xs hlen
      show leavesList ((chunksN n (prod rest) xs).map (nest rest)) = xs
      rw [leavesList_map, List.map_congr_left (g := id), List.map_id, hf]
      exact fun c hcm => leaves_nest rest c (fun x hx => hl x (chunksN_mem_sub _ _ _ c hcm x hx)) (hc c hcm)

theorem chunksN_one : ∀ xs : List Tree, (chunksN xs.length 1 xs).map (nest []) = xs
  | [] => rfl
  | x :: xs => congrArg (x :: ·) (chunksN_one xs)

theorem nest_1d (xs : List Tree) : nest [xs.length] xs = .list xs :=
  congrArg Tree.list (chunksN_one xs)

mutual
theorem canon_isJson : ∀ t : Tree, KeysOk t → IsJson (canon t)
  | .dict kvs => canonKvs_isJson kvs
  | .list xs | .tuple xs => canonList_isJson xs
  | .ndarray _ _ xs | .structured _ _ xs => fun hk =>
      isJson_nest _ _ ((isJsonList_iff _).1 (canonList_isJson xs hk))
  | .int _ | .float _ | .str _ | .none | .bool _ | .npStr _ | .npInt _ | .npFloat _ _ _ | .npBool _
  | .opaque _ => fun _ => trivial
theorem canonList_isJson : ∀ xs : List Tree, KeysOkList xs → IsJsonList (canonList xs)
  | [], _ => trivial
  | x :: xs, ⟨hx, hxs⟩ => ⟨canon_isJson x hx, canonList_isJson xs hxs⟩
theorem canonKvs_isJson : ∀ kvs : List (Key × Tree), KeysOkKvs kvs → IsJsonKvs (canonKvs kvs)
  | [], _ => trivial
  | (k, v) :: rest, ⟨hk, hv, hr⟩ =>
      ⟨by cases k <;> first | exact ⟨_, rfl⟩ | exact absurd rfl hk, canon_isJson v hv, canonKvs_isJson rest hr⟩
end

mutual
theorem isJson_spec : ∀ t : Tree, IsJson t → canon t = t ∧ KeysOk t ∧ WellShaped t
  | .dict kvs => fun h => let ⟨hc, hk, hw⟩ := isJsonKvs_spec kvs h; ⟨congrArg Tree.dict hc, hk, hw⟩
  | .list xs => fun h => let ⟨hc, hk, hw⟩ := isJsonList_spec xs h; ⟨congrArg Tree.list hc, hk, hw⟩
  | .int _ | .float _ | .str _ | .none | .bool _ => fun _ => ⟨rfl, trivial, trivial⟩
  | .tuple _ | .ndarray _ _ _ | .structured _ _ _ | .npInt _ | .npFloat _ _ _ | .npBool _ | .npStr _
  | .opaque _ => False.elim
theorem isJsonList_spec : ∀ xs : List Tree, IsJsonList xs →
    canonList xs = xs ∧ KeysOkList xs ∧ WellShapedList xs
  | [], _ => ⟨rfl, trivial, trivial⟩
  | x :: xs, ⟨hx, hxs⟩ =>
      let ⟨hc, hk, hw⟩ := isJson_spec x hx
      let ⟨hcs, hks, hws⟩ := isJsonList_spec xs hxs
      ⟨show canon x :: canonList xs = _ by rw [hc, hcs], ⟨hk, hks⟩, hw, hws⟩
theorem isJsonKvs_spec : ∀ kvs : List (Key × Tree), IsJsonKvs kvs →
    canonKvs kvs = kvs ∧ KeysOkKvs kvs ∧ WellShapedKvs kvs
  | [], _ => ⟨rfl, trivial, trivial⟩
  | (_, v) :: rest, ⟨⟨s, rfl⟩, hv, hr⟩ =>
      let ⟨hc, hk, hw⟩ := isJson_spec v hv
      let ⟨hcs, hks, hws⟩ := isJsonKvs_spec rest hr
      ⟨show (Key.str s, canon v) :: canonKvs rest = _ by rw [hc, hcs], ⟨nofun, hk, hks⟩, hw, hws⟩
end

theorem canonKvs_of_isJson : ∀ kvs : List (Key × Tree), IsJsonKvs kvs → canonKvs kvs = kvs :=
  fun kvs h => (isJsonKvs_spec kvs h).1

theorem keysOkKvs_of_isJson : ∀ kvs : List (Key × Tree), IsJsonKvs kvs → KeysOkKvs kvs :=
  fun kvs h => (isJsonKvs_spec kvs h).2.1

theorem wellShapedKvs_of_isJson : ∀ kvs : List (Key × Tree), IsJsonKvs kvs → WellShapedKvs kvs :=
  fun kvs h => (isJsonKvs_spec kvs h).2.2

theorem keysOf_canonKvs : ∀ kvs : List (Key × Tree), KeysOkKvs kvs →
    (keysOf (canonKvs kvs)).map renderKey = (keysOf kvs).map renderKey
  | [], _ => rfl
  | (k, _) :: rest, ⟨hk, _, hr⟩ => by
      show renderKey _ :: (keysOf (canonKvs rest)).map renderKey = renderKey k :: _
      rw [keysOf_canonKvs rest hr]
      cases k <;> first | rfl | exact absurd rfl hk

mutual
theorem canon_keysDistinct : ∀ t : Tree, KeysOk t → KeysDistinct t → KeysDistinct (canon t)
  | .dict kvs => fun hk ⟨hn, hd⟩ => by
      have hn' : ((keysOf (canonKvs kvs)).map renderKey).Nodup := by rw [keysOf_canonKvs kvs hk]; exact hn
      exact ⟨hn', canonKvs_keysDistinct kvs hk hd⟩
  | .list xs | .tuple xs => canonList_keysDistinct xs
  | .ndarray _ _ xs | .structured _ _ xs => fun hk hd =>
      keysDistinct_nest _ _ ((keysDistinctList_iff _).1 (canonList_keysDistinct xs hk hd))
  | .int _ | .float _ | .str _ | .none | .bool _ | .npStr _ | .npInt _ | .npFloat _ _ _ | .npBool _
  | .opaque _ => fun _ _ => trivial
theorem canonList_keysDistinct : ∀ xs : List Tree, KeysOkList xs → KeysDistinctList xs → KeysDistinctList (canonList xs)
  | [], _, _ => trivial
  | x :: xs, ⟨hx, hxs⟩, ⟨dx, dxs⟩ => ⟨canon_keysDistinct x hx dx, canonList_keysDistinct xs hxs dxs⟩
theorem canonKvs_keysDistinct : ∀ kvs : List (Key × Tree), KeysOkKvs kvs → KeysDistinctKvs kvs →
    KeysDistinctKvs (canonKvs kvs)
  | [], _, _ => trivial
  | (_, v) :: rest, ⟨_, hv, hr⟩, ⟨dv, dr⟩ => ⟨canon_keysDistinct v hv dv, canonKvs_keysDistinct rest hr dr⟩
end

theorem upsert_fresh (k : Key) (v : Tree) : ∀ acc : List (Key × Tree), k ∉ keysOf acc →
    upsert k v acc = acc ++ [(k, v)]
  | [], _ => rfl
  | (k', v') :: acc, h => by
      have h' : k ≠ k' ∧ k ∉ keysOf acc := not_or.1 (mt List.mem_cons.2 h)
      rw [upsert, if_neg (Ne.symm h'.1), upsert_fresh k v acc h'.2]; rfl

theorem keysOf_append (a b : List (Key × Tree)) : keysOf (a ++ b) = keysOf a ++ keysOf b := by
  simp only [keysOf_eq_map, List.map_append]

theorem foldl_upsert_nodup : ∀ (kvs acc : List (Key × Tree)), (keysOf acc ++ keysOf kvs).Nodup →
    kvs.foldl (fun d e => upsert e.1 e.2 d) acc = acc ++ kvs
  | [], acc, _ => (List.append_nil acc).symm
  | (k, v) :: kvs, acc, h => by
      have h' : (keysOf acc ++ k :: keysOf kvs).Nodup := h
      have hk : k ∉ keysOf acc := fun hm => (List.nodup_append.1 h').2.2 k hm k (List.mem_cons_self ..) rfl
      have h2 : (keysOf (acc ++ [(k, v)]) ++ keysOf kvs).Nodup := by
        rw [keysOf_append, List.append_assoc]; exact h'
      rw [List.foldl_cons, upsert_fresh k v acc hk, foldl_upsert_nodup kvs _ h2, List.append_assoc]; rfl

theorem dedupKvs_nodup (kvs : List (Key × Tree)) (h : (keysOf kvs).Nodup) : dedupKvs kvs = kvs :=
  (foldl_upsert_nodup kvs [] h).trans (List.nil_append kvs)

theorem keysOf_jsonLoadKvs : ∀ kvs : List (Key × Tree), keysOf (jsonLoadKvs kvs) = keysOf kvs
  | [] => rfl
  | (k, _) :: rest => congrArg (k :: ·) (keysOf_jsonLoadKvs rest)

mutual
theorem jsonLoad_id : ∀ j : Tree, KeysDistinct j → jsonLoad j = j
  | .dict kvs => fun ⟨hn, hd⟩ => by
      show Tree.dict (dedupKvs (jsonLoadKvs kvs)) = _
      -- keys that differ as written to the file differ
      rw [jsonLoadKvs_id kvs hd, dedupKvs_nodup kvs (List.Pairwise.of_map _ (fun _ _ h e => h (e ▸ rfl)) hn)]
  | .list xs => fun hd => congrArg Tree.list (jsonLoadList_id xs hd)
  | .tuple _ | .int _ | .float _ | .str _ | .none | .bool _ | .ndarray _ _ _ | .structured _ _ _ | .npInt _
  | .npFloat _ _ _ | .npBool _ | .npStr _ | .opaque _ => fun _ => rfl
theorem jsonLoadList_id : ∀ xs : List Tree, KeysDistinctList xs → jsonLoadList xs = xs
  | [], _ => rfl
  | x :: xs, ⟨dx, dxs⟩ => by
      show jsonLoad x :: jsonLoadList xs = _
      rw [jsonLoad_id x dx, jsonLoadList_id xs dxs]
theorem jsonLoadKvs_id : ∀ kvs : List (Key × Tree), KeysDistinctKvs kvs → jsonLoadKvs kvs = kvs
  | [], _ => rfl
  | (k, v) :: rest, ⟨dv, dr⟩ => by
      show (k, jsonLoad v) :: jsonLoadKvs rest = _
      rw [jsonLoad_id v dv, jsonLoadKvs_id rest dr]
end

theorem jsonRoundTrip_eq_canon (h : DispatchSpec c fb) (t : Tree)
    (hk : KeysOk t) (hd : KeysDistinct t) (hw : WellShaped t) : jsonRoundTrip c fb t = .ok (canon t) := by
  rw [jsonRoundTrip, jsonEncode_eq_canon h t hk hw]
  exact congrArg Except.ok (jsonLoad_id _ (canon_keysDistinct t hk hd))

theorem upsert_mem_keys (k : Key) (v : Tree) : ∀ kvs : List (Key × Tree), (k, v) ∈ upsert k v kvs
  | [] => by simp [upsert]
  | (k', v') :: rest => by
      by_cases hk : k' = k
      · simp [upsert, hk]
      · simp [upsert, hk, upsert_mem_keys k v rest]

theorem mem_upsert {k : Key} {v : Tree} {p : Key × Tree} :
    ∀ {kvs : List (Key × Tree)}, p ∈ upsert k v kvs → p = (k, v) ∨ p ∈ kvs
  | [], h => .inl (List.mem_singleton.1 h)
  | (k', v') :: rest, h => by
      rw [upsert] at h
      split at h
      · exact (List.mem_cons.1 h).imp_right (List.mem_cons_of_mem _)
      · rcases List.mem_cons.1 h with rfl | h
        · exact .inr (List.mem_cons_self ..)
        · exact (mem_upsert h).imp_right (List.mem_cons_of_mem _)

theorem keysOf_upsert (k : Key) (v : Tree) : ∀ kvs : List (Key × Tree),
    keysOf (upsert k v kvs) = if k ∈ keysOf kvs then keysOf kvs else keysOf kvs ++ [k]
  | [] => by simp [upsert, keysOf]
  | (k', v') :: rest => by
      by_cases hk : k' = k
      · simp [upsert, hk, keysOf]
      · have hk2 : ¬ k = k' := fun h => hk h.symm
        by_cases hm : k ∈ keysOf rest
        · simp [upsert, hk, keysOf, keysOf_upsert k v rest, hm]
        · simp [upsert, hk, hk2, keysOf, keysOf_upsert k v rest, hm]

theorem forall_mem_extras {P : Key × Tree → Prop} : ∀ (extra : List (String × Tree)) (kvs : List (Key × Tree)),
    (∀ e ∈ extra, P (.str e.1, e.2)) → (∀ p ∈ kvs, P p) →
    ∀ p ∈ extra.foldl (fun d e => upsert (.str e.1) e.2 d) kvs, P p
  | [], _, _, hk => hk
  | e :: extra, _, he, hk => forall_mem_extras extra _ (fun x hx => he x (List.mem_cons_of_mem _ hx))
      fun p hp => (mem_upsert hp).elim (fun h => h ▸ he e (List.mem_cons_self ..)) (hk p)

theorem nodup_keysOf_extras : ∀ (extra : List (String × Tree)) (kvs : List (Key × Tree)),
    (keysOf kvs).Nodup → (keysOf (extra.foldl (fun d e => upsert (.str e.1) e.2 d) kvs)).Nodup
  | [], _, hn => hn
  | e :: extra, kvs, hn => nodup_keysOf_extras extra _ (by
      rw [keysOf_upsert]
      split
      · exact hn
      · rename_i hm
        exact List.nodup_append.2 ⟨hn, List.pairwise_singleton _ _, fun a ha b hb e =>
          hm (List.mem_singleton.1 hb ▸ e ▸ ha)⟩)

def StrKeys (kvs : List (Key × Tree)) : Prop := ∀ k ∈ keysOf kvs, ∃ s, k = .str s

theorem renderKey_nodup_of_str (ks : List Key) (hs : ∀ k ∈ ks, ∃ s, k = Key.str s) (hn : ks.Nodup) :
    (ks.map renderKey).Nodup :=
  List.pairwise_map.2 <| hn.imp_of_mem fun ha hb hne e => by
    obtain ⟨s, rfl⟩ := hs _ ha
    obtain ⟨s', rfl⟩ := hs _ hb
    exact hne (congrArg Key.str e)

theorem kwargsDict_ok (extra : List (String × Tree)) (kwargs : List (Key × Tree))
    (hs : StrKeys kwargs) (hn : (keysOf kwargs).Nodup)
    (hk : KeysOkKvs kwargs) (hd : KeysDistinctKvs kwargs) (hw : WellShapedKvs kwargs)
    (hx : ∀ e ∈ extra, KeysOk e.2 ∧ KeysDistinct e.2 ∧ WellShaped e.2) :
    KeysOk (kwargsDict extra kwargs) ∧ KeysDistinct (kwargsDict extra kwargs) ∧ WellShaped (kwargsDict extra kwargs) := by
  have hall := forall_mem_extras
    (P := fun p => (∃ s, p.1 = Key.str s) ∧ KeysOk p.2 ∧ KeysDistinct p.2 ∧ WellShaped p.2) extra kwargs
    (fun e he => ⟨⟨_, rfl⟩, hx e he⟩)
    (fun p hp => ⟨hs p.1 (keysOf_eq_map kwargs ▸ List.mem_map_of_mem hp), ((keysOkKvs_iff _).1 hk p hp).2,
      (keysDistinctKvs_iff _).1 hd p hp, (wellShapedKvs_iff _).1 hw p hp⟩)
  have hok : KeysOk (kwargsDict extra kwargs) := (keysOkKvs_iff _).2 fun p hp => by
    obtain ⟨⟨s, hstr⟩, hko, _, _⟩ := hall p hp
    exact ⟨by rw [hstr]; nofun, hko⟩
  have hdist : KeysDistinct (kwargsDict extra kwargs) := by
    refine ⟨renderKey_nodup_of_str _ (fun k hkm => ?_) (nodup_keysOf_extras extra kwargs hn),
      (keysDistinctKvs_iff _).2 fun p hp => ?_⟩
    · rw [keysOf_eq_map] at hkm
      obtain ⟨p, hp, rfl⟩ := List.mem_map.1 hkm
      exact (hall p hp).1
    · obtain ⟨_, _, hkd, _⟩ := hall p hp
      exact hkd
  have hws : WellShaped (kwargsDict extra kwargs) := (wellShapedKvs_iff _).2 fun p hp => by
    obtain ⟨_, _, _, hkw⟩ := hall p hp
    exact hkw
  exact ⟨hok, hdist, hws⟩

end NessaiVerif.Encode
