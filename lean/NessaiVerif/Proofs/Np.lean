import NessaiVerif.Model.Np
namespace NessaiVerif.Np
variable {α : Type}

/- `l.takeWhile P ++ p :: l.dropWhile P` is what every ordered insertion of the models computes: a sorted insert
(`P x = x < p`), one step of an insertion sort (`P x = !le p x`), and `np.searchsorted` + the slice shift of
`insert_live_point` (`set_shift`, `ssl_map`).  The order enters only as the relation `R` and three hypotheses. -/

theorem take_length_takeWhile (P : α → Bool) (l : List α) :
    l.take (l.takeWhile P).length = l.takeWhile P :=
  (List.prefix_iff_eq_take.mp (List.takeWhile_prefix P)).symm

theorem drop_length_takeWhile (P : α → Bool) (l : List α) :
    l.drop (l.takeWhile P).length = l.dropWhile P := by
  conv => lhs; arg 2; rw [← List.takeWhile_append_dropWhile (p := P) (l := l)]
  exact List.drop_left

theorem perm_insert_takeWhile (P : α → Bool) (p : α) (l : List α) :
    (l.takeWhile P ++ p :: l.dropWhile P).Perm (p :: l) := by
  refine List.perm_middle.trans ?_
  rw [List.takeWhile_append_dropWhile]

theorem rel_of_mem_dropWhile {R : α → α → Prop} {P : α → Bool} {p : α} {l : List α}
    (trans : ∀ {x y}, R p x → R x y → R p y) (hN : ∀ x, P x = false → R p x) (hl : l.Pairwise R) :
    ∀ y ∈ l.dropWhile P, R p y := by
  induction l with
  | nil => simp
  | cons x xs ih =>
    obtain ⟨hx, hxs⟩ := List.pairwise_cons.mp hl
    cases h : P x with
    | true => rw [List.dropWhile_cons_of_pos h]; exact ih hxs
    | false =>
      rw [List.dropWhile_cons_of_neg (by simp [h])]
      intro y hy
      rcases List.mem_cons.mp hy with rfl | hy
      · exact hN _ h
      · exact trans (hN x h) (hx y hy)

theorem pairwise_insert_takeWhile {R : α → α → Prop} {P : α → Bool} {p : α} {l : List α}
    (trans : ∀ {x y}, R p x → R x y → R p y) (hP : ∀ x, P x = true → R x p) (hN : ∀ x, P x = false → R p x)
    (hl : l.Pairwise R) : (l.takeWhile P ++ p :: l.dropWhile P).Pairwise R := by
  have hge := rel_of_mem_dropWhile trans hN hl
  rw [← List.takeWhile_append_dropWhile (p := P) (l := l), List.pairwise_append] at hl
  refine List.pairwise_append.mpr ⟨hl.1, List.pairwise_cons.mpr ⟨hge, hl.2.1⟩, fun a ha b hb => ?_⟩
  rcases List.mem_cons.mp hb with rfl | hb
  · exact hP a (List.all_eq_true.mp List.all_takeWhile a ha)
  · exact hl.2.2 a ha b hb

theorem mem_of_getElem?_append_cons {a b : List α} {p y : α} {j : Nat} (h : (a ++ p :: b)[j]? = some y) :
    (j < a.length → y ∈ a) ∧ (a.length < j → y ∈ b) := by
  constructor
  · intro hj
    rw [List.getElem?_append_left hj] at h
    exact List.mem_of_getElem? h
  · intro hj
    rw [List.getElem?_append_right (Nat.le_of_lt hj), ← Nat.succ_pred_eq_of_pos (Nat.sub_pos_of_lt hj),
      List.getElem?_cons_succ] at h
    exact List.mem_of_getElem? h

/-- `a[: i-1] = a[1:i]; a[i-1] = p` for `i = m + 1` on `a = w :: rest`: `w` drops out and `p` lands at position `m`. -/
theorem set_shift (w p : α) (rest : List α) {m : Nat} (hm : m ≤ rest.length) :
    (rest.take m ++ (w :: rest).drop m).set m p = rest.take m ++ p :: rest.drop m := by
  have hlen : (rest.take m).length = m := by simp [hm]
  rw [List.set_append_right _ _ (by omega), hlen, Nat.sub_self,
    List.drop_eq_getElem_cons (by simp; omega), List.set_cons_zero, List.drop_succ_cons]

section ssl
variable [LT α] [DecidableLT α] (a : List α) (v : α)

theorem ssl_le_length : ssl a v ≤ a.length := (List.takeWhile_sublist _).length_le

theorem take_ssl : a.take (ssl a v) = a.takeWhile (fun x => decide (x < v)) := take_length_takeWhile _ _

theorem drop_ssl : a.drop (ssl a v) = a.dropWhile (fun x => decide (x < v)) := drop_length_takeWhile _ _

theorem ssl_cons_of_lt {x : α} (h : x < v) : ssl (x :: a) v = ssl a v + 1 := by
  simp [ssl, h]

theorem ssl_cons_of_not_lt {x : α} (h : ¬ x < v) : ssl (x :: a) v = 0 := by
  simp [ssl, h]

theorem ssl_map {β : Type} (k : β → α) (l : List β) :
    ssl (l.map k) v = (l.takeWhile (fun x => decide (k x < v))).length := by
  unfold ssl
  rw [List.takeWhile_map, List.length_map]
  rfl

end ssl

theorem flatten_splitChunk (c : Nat) (xs : List α) : (splitChunk c xs).flatten = xs := by
  fun_induction splitChunk c xs with
  | case1 xs h => simp
  | case2 xs h ih => simp [ih]

theorem splitChunk_ne_nil (c : Nat) (xs : List α) : splitChunk c xs ≠ [] := by
  fun_induction splitChunk c xs <;> simp

theorem splitChunk_len_le (c : Nat) (hc : 1 ≤ c) (xs : List α) :
    ∀ ch ∈ splitChunk c xs, ch.length ≤ c := by
  fun_induction splitChunk c xs with
  | case1 xs h =>
    intro ch hch
    rw [List.mem_singleton.mp hch]
    omega
  | case2 xs h ih =>
    intro ch hch
    rcases List.mem_cons.mp hch with rfl | hch
    · exact List.length_take_le c xs
    · exact ih ch hch

theorem splitChunk_nonempty (c : Nat) (hc : 1 ≤ c) (xs : List α) (hx : xs ≠ []) :
    ∀ ch ∈ splitChunk c xs, ch ≠ [] := by
  fun_induction splitChunk c xs with
  | case1 xs h => simpa using hx
  | case2 xs h ih =>
    have hlen : c < xs.length := by omega
    simp only [List.mem_cons, forall_eq_or_imp]
    exact ⟨List.ne_nil_of_length_pos (by rw [List.length_take]; omega),
      ih (List.ne_nil_of_length_pos (by rw [List.length_drop]; omega))⟩

theorem flatten_splitBySizes (ss : List Nat) (xs : List α) :
    (splitBySizes ss xs).flatten = xs.take ss.sum := by
  induction ss generalizing xs with
  | nil => simp [splitBySizes]
  | cons s ss ih =>
    simp only [splitBySizes, List.flatten_cons, ih, List.sum_cons]
    rw [List.take_add]

theorem length_splitBySizes (ss : List Nat) (xs : List α) :
    (splitBySizes ss xs).length = ss.length := by
  induction ss generalizing xs with
  | nil => simp [splitBySizes]
  | cons s ss ih => simp [splitBySizes, ih]

theorem sum_sizes_aux (q r : Nat) : ∀ n,
    ((List.range n).map (fun i => if i < r then q + 1 else q)).sum = n * q + min r n := by
  intro n
  induction n with
  | zero => simp
  | succ n ih =>
    rw [List.range_succ, List.map_append, List.sum_append, ih, Nat.succ_mul, List.map_singleton, List.sum_singleton]
    by_cases hr : n < r
    · rw [if_pos hr, Nat.min_eq_right (Nat.le_of_lt hr), Nat.min_eq_right hr]; omega
    · rw [if_neg hr, Nat.min_eq_left (Nat.le_of_not_lt hr), Nat.min_eq_left (Nat.le_succ_of_le (Nat.le_of_not_lt hr))]
      omega

theorem sum_splitNSizes (len n : Nat) (hn : 1 ≤ n) : (splitNSizes len n).sum = len := by
  unfold splitNSizes
  rw [sum_sizes_aux (len / n) (len % n) n]
  have := Nat.div_add_mod len n
  have := Nat.mod_lt len hn
  omega

theorem flatten_splitN (n : Nat) (hn : 1 ≤ n) (xs : List α) : (splitN n xs).flatten = xs := by
  unfold splitN
  rw [flatten_splitBySizes, sum_splitNSizes _ _ hn, List.take_length]

theorem length_splitN (n : Nat) (xs : List α) : (splitN n xs).length = n := by
  unfold splitN
  rw [length_splitBySizes]
  simp [splitNSizes]

theorem flatten_singletons (xs : List α) : (xs.map fun x => [x]).flatten = xs := by
  rw [← List.flatMap_def, List.flatMap_singleton']

end NessaiVerif.Np
