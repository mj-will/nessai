import NessaiVerif.Model.LiveSet
import NessaiVerif.Proofs.Np
/- C01: with the new point strictly above the minimum, the slice program of `insert_live_point` is `insSorted` into the tail
(`insertLive_of_lt`).  `insSorted` and a step of the initial sort (`insKey_eq`) both have the shape
`takeWhile ++ p :: dropWhile`, so their order and permutation facts come from the lemmas of `Np` about that shape. -/
namespace NessaiVerif.LiveSet
open NessaiVerif.Np

theorem ssl_map_logL (l : List Pt) (p : Pt) : ssl (l.map (·.logL)) p.logL = rankIn p l :=
  ssl_map _ _ _

theorem rankIn_le (p : Pt) (l : List Pt) : rankIn p l ≤ l.length :=
  (List.takeWhile_sublist _).length_le

theorem rankIn_cons_lt (p w : Pt) (t : List Pt) (h : w.logL < p.logL) :
    rankIn p (w :: t) = rankIn p t + 1 := by
  simp [rankIn, h]

theorem rankIn_cons_ge (p w : Pt) (t : List Pt) (h : p.logL ≤ w.logL) :
    rankIn p (w :: t) = 0 := by
  simp [rankIn, Int.not_lt.mpr h]

theorem insSorted_eq_take_drop (p : Pt) (t : List Pt) :
    insSorted p t = t.take (rankIn p t) ++ p :: t.drop (rankIn p t) := by
  unfold insSorted rankIn
  rw [take_length_takeWhile, drop_length_takeWhile]

theorem getElem?_insSorted_rankIn (p : Pt) (t : List Pt) : (insSorted p t)[rankIn p t]? = some p := by
  unfold insSorted rankIn
  rw [List.getElem?_append_right (Nat.le_refl _), Nat.sub_self]
  rfl

theorem insSorted_append {a : List Pt} {p : Pt} (h : ∀ x ∈ a, x.logL < p.logL) (b : List Pt) :
    insSorted p (a ++ b) = a ++ insSorted p b := by
  have h' : ∀ x ∈ a, decide (x.logL < p.logL) = true := fun x hx => decide_eq_true (h x hx)
  unfold insSorted
  rw [List.takeWhile_append_of_pos h', List.dropWhile_append_of_pos h', List.append_assoc]

theorem insSorted_perm (p : Pt) (t : List Pt) : (insSorted p t).Perm (p :: t) :=
  perm_insert_takeWhile _ p t

theorem insSorted_length (p : Pt) (t : List Pt) : (insSorted p t).length = t.length + 1 :=
  (insSorted_perm p t).length_eq

theorem insSorted_sorted (p : Pt) (t : List Pt) (hs : SortedL t) : SortedL (insSorted p t) :=
  pairwise_insert_takeWhile (R := fun a b : Pt => a.logL ≤ b.logL) Int.le_trans
    (fun x hx => Int.le_of_lt (by simpa using hx)) (fun x hx => by simpa using hx) hs

theorem insSorted_split (p : Pt) (t : List Pt) (hs : SortedL t) :
    ∃ a b, t = a ++ b ∧ insSorted p t = a ++ p :: b ∧ a.length = rankIn p t ∧
      (∀ y ∈ a, y.logL < p.logL) ∧ (∀ y ∈ b, p.logL ≤ y.logL) :=
  ⟨_, _, List.takeWhile_append_dropWhile.symm, rfl, rfl,
    fun y hy => by simpa using List.all_eq_true.mp List.all_takeWhile y hy,
    rel_of_mem_dropWhile (R := fun a b : Pt => a.logL ≤ b.logL) Int.le_trans (fun x hx => by simpa using hx) hs⟩

/-- With the new point strictly above the current minimum the slice program is a sorted insert into the tail: the minimum
is dropped, nothing else moves. -/
theorem insertLive_of_lt (w : Pt) (t : List Pt) (p : Pt) (h : w.logL < p.logL) :
    insertLive (w :: t) p = .ok (insSorted p t, (rankIn p t : Int)) := by
  have hk := rankIn_le p t
  have hlen : (t.take (rankIn p t)).length = rankIn p t := by simp [hk]
  -- Unfolding leaves `(t.take k ++ (w :: t).drop k).set k p` with `k = rankIn p t`; `set_shift` is the step that
  -- turns it into `t.take k ++ p :: t.drop k`. Only the returned index `↑(k + 1) - 1 = ↑k` remains for `omega`.
  simp only [insertLive, ssl_map_logL, rankIn_cons_lt p w t h, Nat.add_one_ne_zero, if_false,
    Nat.add_sub_cancel, List.take_succ_cons, List.drop_one, List.tail_cons, hlen, ne_eq,
    not_true_eq_false, List.length_cons, set_shift w p t hk, insSorted_eq_take_drop]
  congr 2
  omega

theorem accepts_some {m : Option Int} {c : Cand} {v : Int} (h : accepts m c = some v) :
    c.logP ≠ .ninf ∧ effL c = .fin v ∧ gtMin v m = true := by
  unfold accepts at h
  split at h
  · cases h
  · rename_i hp
    split at h
    · rename_i v' hv
      split at h
      · rename_i hg
        cases h
        exact ⟨hp, hv, hg⟩
      · cases h
    · cases h

theorem lt_of_accepts {w v : Int} {c : Cand} (h : accepts (some w) c = some v) : w < v := by
  simpa [gtMin] using (accepts_some h).2.2

theorem consumeLoop_spec {m : Option Int} {cands : List Cand} {k r : Nat}
    {c : Cand} {v : Int} {k' r' : Nat} {rest : List Cand}
    (h : consumeLoop m cands k r = some (c, v, k', r', rest)) :
    accepts m c = some v ∧
    ∃ pre, cands = pre ++ c :: rest ∧ (∀ x ∈ pre, accepts m x = none) ∧
      k' = k + pre.length + 1 ∧ r' = r + (pre.filter (fun x => !x.popd)).length := by
  fun_induction consumeLoop m cands k r with
  | case1 => cases h
  | case2 x xs k r v' hv =>
    cases h
    exact ⟨hv, [], rfl, by simp, rfl, rfl⟩
  | case3 x xs k r hv ih =>
    obtain ⟨ha, pre, rfl, hrej, rfl, rfl⟩ := ih h
    refine ⟨ha, x :: pre, rfl, List.forall_mem_cons.mpr ⟨hv, hrej⟩, by simp; omega, ?_⟩
    -- a rejected draw counts towards `r'` only if it left the pool unpopulated (`popd = false`)
    cases hp : x.popd <;> simp [hp] <;> omega

theorem consumeLoop_some_of_mem (m : Option Int) (cands : List Cand) (k r : Nat)
    (h : ∃ c ∈ cands, (accepts m c).isSome) : (consumeLoop m cands k r).isSome := by
  fun_induction consumeLoop m cands k r with
  | case1 => simp at h
  | case2 => rfl
  | case3 x xs k r hv ih =>
    obtain ⟨c, hc, hs⟩ := h
    rcases List.mem_cons.mp hc with rfl | hc
    · simp [hv] at hs
    · exact ih ⟨c, hc, hs⟩

/-- the merged loop is the iteration of the literal `yield_sample` model -/
theorem consumeLoop_eq_yield (m : Option Int) (cands : List Cand) (k r : Nat) :
    consumeLoop m cands k r =
      match yieldSample m 0 cands with
      | .exhausted => none
      | .acc c cand v rest => some (cand, v, k + c, r, rest)
      | .empty c rest => consumeLoop m rest (k + c) (r + 1) := by
  -- `yield_sample` started at draw count `j`
  suffices H : ∀ j, consumeLoop m cands (k + j) r =
      match yieldSample m j cands with
      | .exhausted => none
      | .acc c cand v rest => some (cand, v, k + c, r, rest)
      | .empty c rest => consumeLoop m rest (k + c) (r + 1) from H 0
  intro j
  fun_induction yieldSample m j cands with
  | case1 => rfl
  | case2 j c cs v hv => simp [consumeLoop, hv, Nat.add_assoc]
  | case3 j c cs hv hp ih => simpa [consumeLoop, hv, hp, Nat.add_assoc] using ih
  | case4 j c cs hv hp => simp [consumeLoop, hv, hp, Nat.add_assoc]

theorem populateLoop_spec {n : Nat} {cands : List Cand} {acc : List Pt} {lmax : Option Int}
    {out : List Pt} {lmax' : Option Int} {rest : List Cand}
    (h : populateLoop n acc lmax cands = .ok (out, lmax', rest)) :
    ∃ used, cands = used ++ rest ∧ out = acc ++ used.filterMap storeOf ∧
      (acc.length ≤ n → out.length = n) := by
  fun_induction populateLoop n acc lmax cands with
  | case1 acc lmax hn => cases h; exact ⟨[], rfl, by simp, by omega⟩
  | case2 => cases h
  | case3 acc lmax c cs hn => cases h; exact ⟨[], rfl, by simp, by omega⟩
  | case4 acc lmax c cs hn lmax1 p hs ih =>
    obtain ⟨used, rfl, rfl, hl⟩ := ih h
    exact ⟨c :: used, rfl, by simp [hs], fun _ => hl (by simp; omega)⟩
  | case5 acc lmax c cs hn lmax1 hs ih =>
    obtain ⟨used, rfl, rfl, hl⟩ := ih h
    exact ⟨c :: used, rfl, by simp [hs], fun _ => hl (by omega)⟩

theorem storeOf_some {c : Cand} {p : Pt} (h : storeOf c = some p) :
    ∃ v, accepts none c = some v ∧ c.logP = .fin ∧ p = mkPt c v 0 := by
  unfold storeOf at h
  split at h
  · rename_i v hv
    split at h
    · rename_i hp
      cases h
      exact ⟨v, hv, hp, rfl⟩
    · cases h
  · cases h

theorem leKey_iff (a b : Pt) : leKey a b = true ↔ a.logL < b.logL ∨ (a.logL = b.logL ∧ a.id ≤ b.id) := by
  simp [leKey]

theorem leKey_trans {a b c : Pt} (h1 : leKey a b = true) (h2 : leKey b c = true) : leKey a c = true := by
  rw [leKey_iff] at *
  omega

theorem leKey_total (a b : Pt) : leKey a b = true ∨ leKey b a = true := by
  rw [leKey_iff, leKey_iff]
  omega

theorem insKey_eq (p : Pt) (l : List Pt) :
    insKey p l = l.takeWhile (fun x => !leKey p x) ++ p :: l.dropWhile (fun x => !leKey p x) := by
  induction l with
  | nil => rfl
  | cons x xs ih => cases h : leKey p x <;> simp [insKey, h, ih]

theorem insKey_perm (p : Pt) (l : List Pt) : (insKey p l).Perm (p :: l) :=
  insKey_eq p l ▸ perm_insert_takeWhile _ p l

theorem insKey_pairwise (p : Pt) (l : List Pt) (h : l.Pairwise (fun a b => leKey a b = true)) :
    (insKey p l).Pairwise (fun a b => leKey a b = true) :=
  insKey_eq p l ▸ pairwise_insert_takeWhile (R := fun a b => leKey a b = true) leKey_trans
    (fun x hx => (leKey_total p x).resolve_left (by simpa using hx)) (fun x hx => by simpa using hx) h

theorem sortKey_perm (l : List Pt) : (sortKey l).Perm l := by
  induction l with
  | nil => exact .nil
  | cons x xs ih => exact (insKey_perm x _).trans (ih.cons x)

/-- the initial sort orders ties by id -/
theorem sortKey_key_sorted (l : List Pt) : (sortKey l).Pairwise (fun a b => leKey a b = true) := by
  induction l with
  | nil => simp [sortKey]
  | cons x xs ih => unfold sortKey; exact insKey_pairwise x _ ih

theorem sorted_sortKey (l : List Pt) : SortedL (sortKey l) :=
  (sortKey_key_sorted l).imp fun {a b} h => by
    rw [leKey_iff] at h
    omega

end NessaiVerif.LiveSet
