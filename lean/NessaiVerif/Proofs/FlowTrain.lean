import NessaiVerif.Model.FlowTrain
import Mathlib.Data.List.Induction
/-
The tail of `FlowModel.train`: where each field of the final state comes from.  A field holds the best weights' identifier
only if the operation that writes it ran after the operation that made its source hold it.
-/
namespace NessaiVerif.FlowTrain
open List

theorem run_concat (best : Nat) (s : St) (ops : List Op) (op : Op) :
    run best s (ops ++ [op]) = step best (run best s ops) op := by
  simp [run]

variable {last stale best : Nat} {ops : List Op}

theorem restore_of_weights (h1 : best ≠ last) :
    (run best (.afterLoop last stale) ops).weights = best → [.restoreBest] <+ ops := by
  induction ops using List.reverseRecOn with
  | nil => exact fun h => absurd h.symm h1
  | append_singleton ops op ih =>
    rw [run_concat]
    cases op
    case restoreBest => exact fun _ => sublist_append_right _ _
    all_goals exact fun h => (ih h).trans (sublist_append_left _ _)

theorem restore_finalise_of_normFor (h1 : best ≠ last) (h2 : best ≠ stale) :
    (run best (.afterLoop last stale) ops).normFor = best → [.restoreBest, .finalise] <+ ops := by
  induction ops using List.reverseRecOn with
  | nil => exact fun h => absurd h.symm h2
  | append_singleton ops op ih =>
    rw [run_concat]
    cases op
    case finalise => exact fun h => (restore_of_weights h1 h).append (.refl [Op.finalise])
    all_goals exact fun h => (ih h).trans (sublist_append_left _ _)

theorem canonical_of_fileNormFor (h1 : best ≠ last) (h2 : best ≠ stale) :
    (run best (.afterLoop last stale) ops).fileNormFor = some best → canonical <+ ops := by
  induction ops using List.reverseRecOn with
  | nil => exact fun h => nomatch h
  | append_singleton ops op ih =>
    rw [run_concat]
    cases op
    case saveWeights =>
      exact fun h => (restore_finalise_of_normFor h1 h2 (Option.some.inj h)).append (.refl [Op.saveWeights])
    all_goals exact fun h => (ih h).trans (sublist_append_left _ _)

end NessaiVerif.FlowTrain
