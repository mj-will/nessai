import NessaiVerif.Proofs.Pool
/-
C09 — the population loops (core Lean only): the fill loops, `ImportanceFlowProposal.draw` and both branches of
`FlowProposal.populate`; `populate_spec` is what the two branches guarantee of the pool.
-/
namespace NessaiVerif.Pool

theorem min_add_of_lt {N L : Nat} (P : Nat) (h : L < N) : min N (L + P) = L + min (N - L) P := by
  rw [← Nat.add_min_add_left, Nat.add_sub_cancel' (Nat.le_of_lt h)]

theorem sliceWrite_fill {α : Type} (N : Nat) (pre xa : List α) (h : pre.length < N) :
    sliceWrite ((pre.take N).map some ++ List.replicate (N - pre.length) none) pre.length
        (min (N - pre.length) xa.length) xa
      = ((pre ++ xa).take N).map some ++ List.replicate (N - (pre ++ xa).length) none := by
  have hpre : pre.take N = pre := List.take_of_length_le (Nat.le_of_lt h)
  have hlen : (pre.map some).length = pre.length := List.length_map _
  have hk (k x : Nat) : k - min k x = k - x := by
    rcases Nat.le_total k x with hkx | hkx
    · rw [Nat.min_eq_left hkx, Nat.sub_self, Nat.sub_eq_zero_of_le hkx]
    · rw [Nat.min_eq_right hkx]
  -- left of the slice: `pre`
  have h1 : (pre.map some ++ List.replicate (N - pre.length) none).take pre.length = pre.map some :=
    List.take_left' hlen
  -- the slice: `xa[: N - |pre|]`
  have h2 : xa.take (min (N - pre.length) xa.length) = xa.take (N - pre.length) := by
    rw [← List.take_take, List.take_length]
  -- right of it: what is left of the `none`s
  have h3 : (pre.map some ++ List.replicate (N - pre.length) (none : Option α)).drop
        (pre.length + min (N - pre.length) xa.length)
      = List.replicate (N - (pre ++ xa).length) none := by
    rw [List.drop_append, List.drop_eq_nil_of_le (by omega), List.nil_append, List.drop_replicate, hlen,
      Nat.add_sub_cancel_left, hk, List.length_append, Nat.sub_sub]
  have h4 : (pre ++ xa).take N = pre ++ xa.take (N - pre.length) := by
    rw [List.take_append, hpre]
  rw [sliceWrite, hpre, h1, h2, h3, h4, List.map_append]

theorem filled_of_le {α : Type} {N : Nat} {pre : List α} (rest : List α) (h : N ≤ pre.length) :
    (pre.take N).map some ++ List.replicate (N - pre.length) none = ((pre ++ rest).take N).map some := by
  rw [Nat.sub_eq_zero_of_le h, List.take_append_of_le_length h, List.replicate_zero, List.append_nil]

theorem fillLoop_eq {α : Type} {N : Nat} {keep : α → Bool} {bs : List (List α)} {arr out : List (Option α)} {n : Nat}
    {pre : List α} (harr : arr = (pre.take N).map some ++ List.replicate (N - pre.length) none)
    (hn : n = min N pre.length) (h : fillLoop N keep arr n bs = some out) :
    out = ((pre ++ bs.flatMap (·.filter keep)).take N).map some ∧
      N ≤ (pre ++ bs.flatMap (·.filter keep)).length := by
  fun_induction fillLoop N keep arr n bs generalizing pre
  -- `N ≤ n`: the loop has ended
  case case1 hN =>
    cases h
    have hN' : N ≤ pre.length := Nat.le_trans hN (hn ▸ Nat.min_le_right ..)
    exact ⟨harr.trans (filled_of_le _ hN'), Nat.le_trans hN' (by simp)⟩
  -- the script ran out
  case case2 => cases h
  -- one batch: its kept points are written at `n`
  case case3 n hN b _ p m ih =>
    have hlt : pre.length < N := by omega
    have hn' : n = pre.length := hn.trans (Nat.min_eq_right (Nat.le_of_lt hlt))
    have hm : m = min (N - pre.length) p.length := hn' ▸ Nat.min_comm ..
    rw [List.flatMap_cons, ← List.append_assoc]
    refine ih ?_ (by rw [List.length_append, min_add_of_lt _ hlt, hn', hm]) h
    rw [harr, hn', hm]
    exact sliceWrite_fill N pre p hlt

theorem insLoop_eq {n : Nat} {bs : List (List ICand)} {samples out : List ICand} {nAcc k k' : Nat}
    (hn : nAcc = samples.length) (h : insLoop n samples nAcc k bs = some (out, k')) :
    n ≤ out.length ∧ out <+: samples ++ bs.flatMap (fun b => (b.filter ICand.mask1).filter ICand.mask2) := by
  fun_induction insLoop n samples nAcc k bs
  -- the loop has ended
  case case1 hN => cases h; exact ⟨by omega, List.prefix_append _ _⟩
  -- the script ran out
  case case2 => cases h
  -- first mask empty: `continue`
  case case3 b _ _ hE ih =>
    rw [List.flatMap_cons, show b.filter ICand.mask1 = [] from List.isEmpty_iff.1 hE, List.filter_nil,
      List.nil_append]
    exact ih hn h
  -- second mask empty: `continue`
  case case4 b _ _ _ _ hE ih =>
    rw [List.flatMap_cons, show (b.filter ICand.mask1).filter ICand.mask2 = [] from List.isEmpty_iff.1 hE,
      List.nil_append]
    exact ih hn h
  -- the batch's accepted points are appended
  case case5 ih =>
    rw [List.flatMap_cons, ← List.append_assoc]
    exact ih (by rw [List.length_append, hn]) h

/-- the accepted points of all scripted batches, the uniform lists being consumed only by batches with at least
    one survivor (exactly as the loop consumes them) -/
def plainStream (t : Option EV) : List (List Cand) → List (List EV) → List Cand
  | [], _ => []
  | b :: bs, us =>
    if (survivors t b).isEmpty then plainStream t bs us
    else match us with
      | [] => []
      | u :: us => plainAccepted t b u ++ plainStream t bs us

/-- loop invariant: `pre` = everything accepted so far -/
structure Good (N : Nat) (pre : List Cand) (st : PlainSt) : Prop where
  nacc : st.nAcc = pre.length
  arr : st.arr = (pre.take N).map some ++ List.replicate (N - pre.length) none
  writes : st.writes = List.range (min N pre.length)

theorem good_init (N : Nat) : Good N [] (PlainSt.init N) := by
  constructor <;> simp [PlainSt.init]

theorem plainStream_skip {t : Option EV} {b : List Cand} (hE : (survivors t b).isEmpty = true)
    (bs : List (List Cand)) (us : List (List EV)) : plainStream t (b :: bs) us = plainStream t bs us := by
  rw [plainStream.eq_def]; exact if_pos hE

theorem plainStream_cons {t : Option EV} {b : List Cand} (hE : ¬(survivors t b).isEmpty = true)
    (bs : List (List Cand)) (u : List EV) (us : List (List EV)) :
    plainStream t (b :: bs) (u :: us) = plainAccepted t b u ++ plainStream t bs us := by
  rw [plainStream.eq_def]; exact if_neg hE

-- the inputs of a population: `strictZ`, `N`, `max_samples`, `min_log_q`, the scripted batches, gates and uniforms
variable {z : Bool} {N maxS : Nat} {t : Option EV} {bs all : List (List Cand)} {gs : List Bool}
  {us us' : List (List EV)} {P : Population}

theorem mem_plainStream {c : Cand} (h : c ∈ plainStream t bs us) : ∃ b ∈ bs, ∃ u, c ∈ plainAccepted t b u := by
  fun_induction plainStream t bs us
  -- no batches, or no uniforms, left
  case case1 | case3 => cases h
  -- no survivor: the batch is skipped
  case case2 ih =>
    obtain ⟨b, hb, hu⟩ := ih h
    exact ⟨b, List.mem_cons_of_mem _ hb, hu⟩
  -- the batch's accepted points come first
  case case4 ih =>
    rcases List.mem_append.1 h with h | h
    · exact ⟨_, List.mem_cons_self, _, h⟩
    · obtain ⟨b, hb, hu⟩ := ih h
      exact ⟨b, List.mem_cons_of_mem _ hb, hu⟩

theorem plainLoop_spec {st st' : PlainSt} {pre : List Cand} (hg : Good N pre st) (h : plainLoop z N t st bs us = some st')
    (hc : st'.crashed = false) :
    st'.arr = ((pre ++ plainStream t bs us).take N).map some ∧ N ≤ (pre ++ plainStream t bs us).length ∧
      st'.writes = List.range N ∧ N ≤ st'.nAcc := by
  fun_induction plainLoop z N t st bs us generalizing pre
  -- `N ≤ n_accepted`: the loop has ended
  case case1 hN =>
    cases h
    have hN' : N ≤ pre.length := hg.nacc ▸ hN
    exact ⟨hg.arr.trans (filled_of_le _ hN'), Nat.le_trans hN' (by simp),
      by rw [hg.writes, Nat.min_eq_left hN'], hN⟩
  -- the script ran out (batches, uniforms)
  case case2 | case5 => cases h
  -- `IndexError`
  case case3 => cases h; cases hc
  -- `continue`
  case case4 hE ih =>
    rw [plainStream_skip hE]
    exact ih ⟨hg.nacc, hg.arr, hg.writes⟩ h
  -- a batch with survivors: its accepted points `xa` are written at `n_accepted`
  case case6 st hN _ _ _ _ hE u us xa _ ih =>
    have hlt : pre.length < N := hg.nacc ▸ Nat.lt_of_not_le hN
    rw [plainStream_cons hE, ← List.append_assoc]
    refine ih ⟨(congrArg (· + xa.length) hg.nacc).trans List.length_append.symm, ?_, ?_⟩ h
    · show sliceWrite st.arr st.nAcc (min (N - st.nAcc) xa.length) xa = _
      rw [hg.arr, hg.nacc]
      exact sliceWrite_fill N pre xa hlt
    · show st.writes ++ (List.range (min (N - st.nAcc) xa.length)).map (st.nAcc + ·) = _
      rw [hg.writes, hg.nacc, List.length_append, Nat.min_eq_right (Nat.le_of_lt hlt), min_add_of_lt _ hlt,
        List.range_add]

theorem plainLoop_no_crash {st st' : PlainSt} (hb : ∀ b ∈ bs, batchCrashes z b = false) (hs : st.crashed = false)
    (h : plainLoop z N t st bs us = some st') : st'.crashed = false := by
  fun_induction plainLoop z N t st bs us generalizing st'
  -- the loop has ended
  case case1 => cases h; exact hs
  -- the script ran out
  case case2 | case5 => cases h
  -- `IndexError`: excluded by `hb`
  case case3 hcr => rw [hb _ List.mem_cons_self] at hcr; cases hcr
  -- `continue`, or a batch written
  case case4 ih | case6 ih => exact ih (fun b hb' => hb b (List.mem_cons_of_mem _ hb')) hs h

theorem populatePlain_eq_some (h : populatePlain z N t bs us = some P) :
    ∃ st, plainLoop z N t (PlainSt.init N) bs us = some st ∧ P.pool = st.arr.take N ∧ P.llCalls = P.pool ∧
      P.crashed = st.crashed ∧ P.broke = false := by
  obtain ⟨st, hl, rfl⟩ := Option.map_eq_some_iff.1 h
  exact ⟨st, hl, rfl, rfl, rfl, rfl⟩

/-- invariant of the accumulating loop; the stored mask is as long as `samples` whenever the guard `n_accepted ≥ N`
    holds (the gate was open in the iteration that made it hold) -/
structure AccInv (N : Nat) (t : Option EV) (all : List (List Cand)) (st : AccSt) : Prop where
  lws : st.lws = logWeights st.samples
  mem : ∀ c ∈ st.samples, ∃ b ∈ all, c ∈ survivors t b
  unset : st.accept = none → st.nAcc = 0
  mask : ∀ a, st.accept = some a → countTrue a = st.nAcc ∧ a.length ≤ st.samples.length ∧
    (N ≤ st.nAcc → a.length = st.samples.length) ∧
    ∀ c ∈ select a st.samples, ∃ m u, acceptFlow (logWeight c) m u = true

theorem accInv_init : AccInv N t all {} :=
  ⟨rfl, by simp, fun _ => rfl, by simp⟩

/-- `c`, `p`, `k` are arbitrary: the loop also updates `log_constant` and the counters, of which the invariant says nothing -/
theorem AccInv.append {st : AccSt} {b : List Cand} (hi : AccInv N t all st) (hN : ¬N ≤ st.nAcc) (hb : b ∈ all)
    (c : EV) (p k : Nat) :
    AccInv N t all { st with samples := st.samples ++ survivors t b, lws := st.lws ++ logWeights (survivors t b),
                             c := c, nProp := p, batches := k } := by
  refine ⟨by simp [hi.lws, logWeights], fun c hc => ?_, hi.unset, fun a h => ?_⟩
  · rcases List.mem_append.1 hc with hc | hc
    · exact hi.mem c hc
    · exact ⟨b, hb, hc⟩
  · obtain ⟨h1, h2, -, h4⟩ := hi.mask a h
    refine ⟨h1, Nat.le_trans h2 ?_, fun h => absurd h hN, ?_⟩
    · show _ ≤ (st.samples ++ survivors t b).length
      simp
    · show ∀ c ∈ select a (st.samples ++ survivors t b), _
      rwa [select_append_left a _ _ h2]

theorem AccInv.draw {st : AccSt} (hi : AccInv N t all st) (u : List EV) (r : Nat) :
    AccInv N t all { st with accept := some (acceptMask st.lws st.c u),
                             nAcc := countTrue (acceptMask st.lws st.c u), rands := r } := by
  refine ⟨hi.lws, hi.mem, nofun, fun a h => ?_⟩
  cases h
  have hlen : (acceptMask st.lws st.c u).length = st.samples.length := by
    rw [length_acceptMask, hi.lws]; exact List.length_map _
  refine ⟨rfl, Nat.le_of_eq hlen, fun _ => hlen, fun x hx => ?_⟩
  rw [hi.lws] at hx
  exact ⟨_, mem_select_acceptMask logWeight hx⟩

theorem accLoop_spec {st st' : AccSt} {broke : Bool} (hall : bs ⊆ all) (hi : AccInv N t all st)
    (h : accLoop z N maxS t st bs gs us = some (st', broke, us')) (hc : st'.crashed = false) :
    AccInv N t all st' ∧ (broke = false → N ≤ st'.nAcc) := by
  fun_induction accLoop z N maxS t st bs gs us generalizing st' broke us'
  -- `N ≤ n_accepted`: the loop has ended
  case case1 hN => cases h; exact ⟨hi, fun _ => hN⟩
  -- the script ran out (batches, gates, uniforms)
  case case2 | case5 | case6 => cases h
  -- `IndexError`
  case case3 => cases h; cases hc
  -- `continue`: only the counters move
  case case4 ih => exact ih (List.subset_of_cons_subset hall) ⟨hi.lws, hi.mem, hi.unset, hi.mask⟩ h hc
  -- gate open: a fresh mask over the extended arrays, then `break` or the next iteration
  case case7 =>
    cases h
    exact ⟨(hi.append ‹_› (hall List.mem_cons_self) _ _ _).draw _ _, nofun⟩
  case case8 ih =>
    exact ih (List.subset_of_cons_subset hall) ((hi.append ‹_› (hall List.mem_cons_self) _ _ _).draw _ _) h hc
  -- gate closed: the arrays are extended, the mask is stale
  case case9 =>
    cases h
    exact ⟨hi.append ‹_› (hall List.mem_cons_self) _ _ _, nofun⟩
  case case10 ih =>
    exact ih (List.subset_of_cons_subset hall) (hi.append ‹_› (hall List.mem_cons_self) _ _ _) h hc

theorem accLoop_no_crash {st st' : AccSt} {broke : Bool} (hb : ∀ b ∈ bs, batchCrashes z b = false)
    (hs : st.crashed = false) (h : accLoop z N maxS t st bs gs us = some (st', broke, us')) : st'.crashed = false := by
  fun_induction accLoop z N maxS t st bs gs us generalizing st' broke us'
  -- the loop has ended, or `break` (gate open, gate closed)
  case case1 | case7 | case9 => cases h; exact hs
  -- the script ran out
  case case2 | case5 | case6 => cases h
  -- `IndexError`: excluded by `hb`
  case case3 hcr => rw [hb _ List.mem_cons_self] at hcr; cases hcr
  -- `continue`, or the next iteration (gate open, gate closed)
  case case4 ih | case8 ih | case10 ih => exact ih (fun b hb' => hb b (List.mem_cons_of_mem _ hb')) hs h

theorem finalMask_spec {st : AccSt} (hi : AccInv N t all st) {acc : List Bool} {r : Nat} (h : finalMask st us = some (acc, r)) :
    (∀ c ∈ select acc st.samples, ∃ m u, acceptFlow (logWeight c) m u = true) ∧
      (N ≤ st.nAcc → N ≤ (select acc st.samples).length) := by
  have redraw : redrawMask st us = some (acc, r) →
      ∀ c ∈ select acc st.samples, ∃ m u, acceptFlow (logWeight c) m u = true := by
    intro h c hc
    match us, h with
    | u :: _, rfl =>
      rw [hi.lws] at hc
      exact ⟨_, mem_select_acceptMask logWeight hc⟩
  cases ha : st.accept with
  | none =>
    simp only [finalMask, ha] at h
    exact ⟨redraw h, fun hN => by rw [hi.unset ha] at hN; exact Nat.le_trans hN (Nat.zero_le _)⟩
  | some a =>
    obtain ⟨h1, h2, h3, h4⟩ := hi.mask a ha
    simp only [finalMask, ha] at h
    split at h
    · cases h
      exact ⟨h4, fun hN => by rw [length_select _ _ h2, h1]; exact hN⟩
    · exact ⟨redraw h, fun hN => absurd (h3 hN) ‹_›⟩

theorem populateAcc_eq_some (h : populateAcc z N maxS t bs gs us = some P) :
    ∃ st broke us', accLoop z N maxS t {} bs gs us = some (st, broke, us') ∧ P.crashed = st.crashed ∧
      (st.crashed = false → ∃ acc r, finalMask st us' = some (acc, r) ∧
        P.pool = ((select acc st.samples).take N).map some ∧ P.llCalls = P.pool ∧ P.broke = broke) := by
  unfold populateAcc at h
  split at h
  · cases h
  · rename_i st broke us' hl
    refine ⟨st, broke, us', hl, ?_⟩
    split at h
    · rename_i hcr
      cases h
      exact ⟨hcr.symm, fun hf => absurd (hcr.symm.trans hf) nofun⟩
    · obtain ⟨⟨acc, r⟩, hm, rfl⟩ := Option.map_eq_some_iff.1 h
      exact ⟨rfl, fun _ => ⟨acc, r, hm, rfl, rfl, rfl⟩⟩

theorem populate_spec (hc : P.crashed = false)
    (h : populatePlain z N t bs us = some P ∨ ∃ maxS gs, populateAcc z N maxS t bs gs us = some P) :
    (∀ s ∈ P.pool, s ≠ none) ∧ P.llCalls = P.pool ∧ P.pool.length ≤ N ∧ (P.broke = false → P.pool.length = N) ∧
      ∀ c, some c ∈ P.pool → (∃ b ∈ bs, c ∈ survivors t b) ∧ ∃ m u, acceptFlow (logWeight c) m u = true := by
  suffices ∃ l : List Cand, P.pool = l.map some ∧ P.llCalls = P.pool ∧ l.length ≤ N ∧
      (P.broke = false → l.length = N) ∧
      ∀ c ∈ l, (∃ b ∈ bs, c ∈ survivors t b) ∧ ∃ m u, acceptFlow (logWeight c) m u = true by
    obtain ⟨l, hp, hll, h1, h2, hl⟩ := this
    rw [hp, List.length_map] at *
    exact ⟨List.forall_mem_map.2 fun _ _ => nofun, hll, h1, h2, fun c hc => hl c (by simpa using hc)⟩
  rcases h with h | ⟨maxS, gs, h⟩
  · obtain ⟨st, hl, hp, hll, hcr, -⟩ := populatePlain_eq_some h
    obtain ⟨h1, h2, -, -⟩ := plainLoop_spec (good_init N) hl (hcr ▸ hc)
    rw [List.nil_append] at h1 h2
    have hlen : ((plainStream t bs us).take N).length = N := by rw [List.length_take]; exact Nat.min_eq_left h2
    refine ⟨(plainStream t bs us).take N, ?_, hll, Nat.le_of_eq hlen, fun _ => hlen, fun c hc => ?_⟩
    · rw [hp, h1, ← List.map_take, List.take_take, Nat.min_self]
    · obtain ⟨b, hb, u, ha⟩ := mem_plainStream (List.mem_of_mem_take hc)
      exact ⟨⟨b, hb, (plainAccepted_spec ha).1⟩, (plainAccepted_spec ha).2⟩
  · obtain ⟨st, broke, us', hl, hcr, hf⟩ := populateAcc_eq_some h
    obtain ⟨hi, hN⟩ := accLoop_spec (List.Subset.refl bs) accInv_init hl (hcr ▸ hc)
    obtain ⟨acc, r, hm, hp, hll, hbr⟩ := hf (hcr ▸ hc)
    obtain ⟨h1, h2⟩ := finalMask_spec hi hm
    refine ⟨(select acc st.samples).take N, hp, hll, List.length_take_le _ _, fun hb => ?_, fun c hc => ?_⟩
    · rw [List.length_take]
      exact Nat.min_eq_left (h2 (hN (hbr ▸ hb)))
    · have hc := List.mem_of_mem_take hc
      exact ⟨hi.mem c (mem_of_mem_select hc), h1 c hc⟩

end NessaiVerif.Pool
