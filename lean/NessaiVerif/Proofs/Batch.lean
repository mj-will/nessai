import NessaiVerif.Model.Batch
import NessaiVerif.Proofs.Np
/- Lemmas for C10: what the two splitting helpers of `batch_evaluate_function` return, that they lose nothing, and its
dispatch tree with the pool test innermost. -/
namespace NessaiVerif.Batch
open NessaiVerif.Np
variable {α : Type}

theorem arraySplitChunksize_of_pos (xs : List α) {c : Int} (hc : 1 ≤ c) :
    arraySplitChunksize xs c = .ok (splitChunk c.toNat xs) :=
  if_neg (Int.not_lt.mpr hc)

theorem arraySplitChunksize_of_lt (xs : List α) {c : Int} (hc : c < 1) :
    arraySplitChunksize xs c = .error .valueErr :=
  if_pos hc

theorem splitPool_of_pos (xs : List α) {n : Nat} (hn : 1 ≤ n) : splitPool (some n) xs = .ok (splitN n xs) :=
  if_neg (by omega)

theorem flatten_arraySplitChunksize {xs : List α} {c : Int} {calls : List (List α)}
    (h : arraySplitChunksize xs c = .ok calls) : calls.flatten = xs := by
  by_cases hc : c < 1
  · rw [arraySplitChunksize_of_lt xs hc] at h; cases h
  · rw [arraySplitChunksize_of_pos xs (by omega)] at h; cases h; exact flatten_splitChunk _ _

theorem flatten_splitPool {nPool : Option Nat} {xs : List α} {calls : List (List α)}
    (h : splitPool nPool xs = .ok calls) : calls.flatten = xs := by
  match nPool with
  | none => cases h
  | some 0 => cases h
  | some (n + 1) => rw [splitPool_of_pos xs (by omega)] at h; cases h; exact flatten_splitN _ (by omega) _

theorem batchCalls_eq (vectorised : Bool) (chunk : Option Int) (pool : Bool) (nPool : Option Nat) (xs : List α) :
    batchCalls vectorised chunk pool nPool xs =
      if vectorised then
        match chunk with
        | some c => if c == 0 then (if pool then splitPool nPool xs else .ok [xs]) else arraySplitChunksize xs c
        | none => if pool then splitPool nPool xs else .ok [xs]
      else .ok (xs.map fun x => [x]) := by
  cases pool <;> cases vectorised <;> rfl

end NessaiVerif.Batch
