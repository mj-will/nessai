import NessaiVerif.Proofs.Reparam
/-
C07 — one notion of a lawful reparameterisation object acting on `(x, x_prime, log_j)`, closed under composition:
`seq` (the parameter loop of one object), `combined` (CombinedReparameterisation, both orders) and the
FlowProposal layer (`proposalRescale` / `proposalInverseRescale` with the non-sampling fields).
-/
namespace NessaiVerif.Reparam

section Combinators
variable {ι κ K : Type}

def compose (r1 r2 : Reparam (ι → K) (κ → K) K) : Reparam (ι → K) (κ → K) K where
  fwd := fun s => r2.fwd (r1.fwd s)
  inv := fun s => r1.inv (r2.inv s)

theorem compose_fwd (r1 r2 : Reparam (ι → K) (κ → K) K) (s : (ι → K) × (κ → K) × K) :
    (compose r1 r2).fwd s = r2.fwd (r1.fwd s) := rfl

theorem compose_inv (r1 r2 : Reparam (ι → K) (κ → K) K) (s : (ι → K) × (κ → K) × K) :
    (compose r1 r2).inv s = r1.inv (r2.inv s) := rfl

def idReparam : Reparam (ι → K) (κ → K) K := ⟨id, id⟩

theorem seq_nil : (seq ([] : List (Reparam (ι → K) (κ → K) K))) = idReparam := rfl

theorem seq_cons (r : Reparam (ι → K) (κ → K) K) (rs : List (Reparam (ι → K) (κ → K) K)) :
    seq (r :: rs) = compose r (seq rs) := by
  simp only [seq, compose, List.foldl_cons, List.reverse_cons, List.foldl_append, List.foldl_nil]

theorem combined_eq_seq (rs : List (Reparam (ι → K) (κ → K) K)) (rev : Bool) :
    combined rs rev = seq (if rev then rs.reverse else rs) := by
  cases rev <;> simp [combined, seq]

variable [DecidableEq ι]

theorem upd_same (f : ι → K) (i : ι) (v : K) : upd f i v i = v := by simp [upd]
theorem upd_other (f : ι → K) (i j : ι) (v : K) (h : j ≠ i) : upd f i v j = f j := by simp [upd, h]

theorem foldl_upd (ns : List ι) (f g : ι → K) (k : ι) :
    (ns.foldl (fun a p => upd a p (g p)) f) k = if k ∈ ns then g k else f k := by
  induction ns generalizing f with
  | nil => simp
  | cons n ns ih =>
    rw [List.foldl_cons, ih]
    by_cases hk : k ∈ ns
    · simp [hk]
    · by_cases hn : k = n <;> simp [hk, hn, upd]

end Combinators

variable {ι κ K : Type} [Field K]

/-- `r` is lawful for the parameters `P`, the prime parameters `PP`, on the points `D`:
* forward never touches `x`, writes only `PP` entries of `x_prime`, and what it writes / multiplies into the
  Jacobian depends on `x` only;
* inverse never touches `x_prime`, writes only `P` entries of `x`, and what it writes / multiplies depends only on the
  `PP` entries of `x_prime`;
* on `D` the inverse returns the original parameters and the two Jacobian factors multiply to one. -/
structure Lawful (r : Reparam (ι → K) (κ → K) K) (P : ι → Prop) (PP : κ → Prop) (D : (ι → K) → Prop) : Prop where
  fwd_x : ∀ s, (r.fwd s).1 = s.1
  fwd_frame : ∀ s k, ¬ PP k → (r.fwd s).2.1 k = s.2.1 k
  fwd_local : ∀ x xp xq j j' k, PP k → (r.fwd (x, xp, j)).2.1 k = (r.fwd (x, xq, j')).2.1 k
  fwd_jac : ∀ x xp xq j, (r.fwd (x, xp, j)).2.2 = j * (r.fwd (x, xq, 1)).2.2
  inv_xp : ∀ s, (r.inv s).2.1 = s.2.1
  inv_frame : ∀ s i, ¬ P i → (r.inv s).1 i = s.1 i
  inv_local : ∀ x y xp xq j j', (∀ k, PP k → xp k = xq k) → ∀ i, P i → (r.inv (x, xp, j)).1 i = (r.inv (y, xq, j')).1 i
  inv_jac : ∀ x y xp xq j, (∀ k, PP k → xp k = xq k) → (r.inv (x, xp, j)).2.2 = j * (r.inv (y, xq, 1)).2.2
  roundtrip : ∀ x xp j y j', D x → ∀ i, P i → (r.inv (y, (r.fwd (x, xp, j)).2.1, j')).1 i = x i
  jac : ∀ x xp y, D x → (r.fwd (x, xp, 1)).2.2 * (r.inv (y, (r.fwd (x, xp, 1)).2.1, 1)).2.2 = 1

theorem Lawful.congr {r : Reparam (ι → K) (κ → K) K} {P P' : ι → Prop} {PP PP' : κ → Prop} {D D' : (ι → K) → Prop}
    (h : Lawful r P PP D) (hP : ∀ i, P i ↔ P' i) (hPP : ∀ k, PP k ↔ PP' k) (hD : ∀ x, D' x → D x) : Lawful r P' PP' D' := by
  have e1 : P = P' := funext fun i => propext (hP i)
  have e2 : PP = PP' := funext fun k => propext (hPP k)
  subst e1 e2
  exact { h with roundtrip := fun x xp j y j' hx => h.roundtrip x xp j y j' (hD x hx),
                 jac := fun x xp y hx => h.jac x xp y (hD x hx) }

theorem idReparam_lawful : Lawful (idReparam : Reparam (ι → K) (κ → K) K) (fun _ => False) (fun _ => False) (fun _ => True) where
  fwd_x := fun _ => rfl
  fwd_frame := fun _ _ _ => rfl
  fwd_local := fun _ _ _ _ _ _ h => h.elim
  fwd_jac := fun _ _ _ j => by simp [idReparam]
  inv_xp := fun _ => rfl
  inv_frame := fun _ _ _ => rfl
  inv_local := fun _ _ _ _ _ _ _ _ h => h.elim
  inv_jac := fun _ _ _ _ j _ => by simp [idReparam]
  roundtrip := fun _ _ _ _ _ _ _ h => h.elim
  jac := fun _ _ _ _ => by simp [idReparam]

namespace Lawful
variable {r : Reparam (ι → K) (κ → K) K} {P : ι → Prop} {PP : κ → Prop} {D : (ι → K) → Prop} (h : Lawful r P PP D)
include h

theorem fwd_eq (x : ι → K) (xp : κ → K) (j : K) :
    r.fwd (x, xp, j) = (x, (r.fwd (x, xp, j)).2.1, (r.fwd (x, xp, j)).2.2) :=
  Prod.ext (h.fwd_x _) rfl

theorem inv_eq (y : ι → K) (xp : κ → K) (j : K) :
    r.inv (y, xp, j) = ((r.inv (y, xp, j)).1, xp, (r.inv (y, xp, j)).2.2) :=
  Prod.ext rfl (Prod.ext (h.inv_xp _) rfl)

theorem fwd_jac_mul (x : ι → K) (xp xq : κ → K) (j j' : K) :
    (r.fwd (x, xp, j * j')).2.2 = j * (r.fwd (x, xq, j')).2.2 := by
  rw [h.fwd_jac x xp xq, h.fwd_jac x xq xq j', mul_assoc]

theorem inv_jac_mul (x y : ι → K) {xp xq : κ → K} (j j' : K) (hag : ∀ k, PP k → xp k = xq k) :
    (r.inv (x, xp, j * j')).2.2 = j * (r.inv (y, xq, j')).2.2 := by
  rw [h.inv_jac x y xp xq _ hag, h.inv_jac y y xq xq j' fun _ _ => rfl, mul_assoc]

/-- the round trip still holds when the inverse is handed any `x_prime` that agrees with the forward image on the `PP`
    entries, whatever factor either side has accumulated (the forward image does not depend on the incoming factor) -/
theorem roundtrip_of_agree {x y : ι → K} {xp xq : κ → K} {j j' : K} (hD : D x)
    (hag : ∀ k, PP k → xq k = (r.fwd (x, xp, j)).2.1 k) {i : ι} (hi : P i) : (r.inv (y, xq, j')).1 i = x i :=
  (h.inv_local y y xq _ j' j' hag i hi).trans (h.roundtrip x xp j y j' hD i hi)

/-- likewise the Jacobian product: the inverse, handed such an `x_prime` and an accumulated factor `j'`, returns `j'`
    divided by the forward factor -/
theorem jac_of_agree {x y : ι → K} {xp xq : κ → K} {j j' : K} (hD : D x)
    (hag : ∀ k, PP k → xq k = (r.fwd (x, xp, j)).2.1 k) :
    (r.fwd (x, xp, 1)).2.2 * (r.inv (y, xq, j')).2.2 = j' := by
  rw [h.inv_jac y y xq (r.fwd (x, xp, 1)).2.1 j' fun k hk => (hag k hk).trans (h.fwd_local x xp xp j 1 k hk),
    mul_left_comm, h.jac x xp y hD, mul_one]

end Lawful

theorem Lawful.comp {r1 r2 : Reparam (ι → K) (κ → K) K} {P1 P2 : ι → Prop} {PP1 PP2 : κ → Prop}
    {D1 D2 : (ι → K) → Prop} (h1 : Lawful r1 P1 PP1 D1) (h2 : Lawful r2 P2 PP2 D2)
    (hP : ∀ i, ¬ (P1 i ∧ P2 i)) (hPP : ∀ k, ¬ (PP1 k ∧ PP2 k)) :
    Lawful (compose r1 r2) (fun i => P1 i ∨ P2 i) (fun k => PP1 k ∨ PP2 k) (fun x => D1 x ∧ D2 x) where
  fwd_x s := (h2.fwd_x _).trans (h1.fwd_x s)
  fwd_frame s k hk := (h2.fwd_frame _ k fun h => hk (.inr h)).trans (h1.fwd_frame s k fun h => hk (.inl h))
  fwd_local x xp xq j j' k hk := by
    rw [compose_fwd, compose_fwd]
    rcases hk with hk | hk
    · rw [h2.fwd_frame _ k fun h => hPP k ⟨hk, h⟩, h2.fwd_frame _ k fun h => hPP k ⟨hk, h⟩]
      exact h1.fwd_local x xp xq j j' k hk
    · rw [h1.fwd_eq x xp j, h1.fwd_eq x xq j']
      exact h2.fwd_local x _ _ _ _ k hk
  fwd_jac x xp xq j := by
    rw [compose_fwd, compose_fwd, h1.fwd_eq x xp j, h1.fwd_eq x xq 1, h1.fwd_jac x xp xq j]
    exact h2.fwd_jac_mul ..
  inv_xp s := (h1.inv_xp _).trans (h2.inv_xp s)
  inv_frame s i hi := (h1.inv_frame _ i fun h => hi (.inl h)).trans (h2.inv_frame s i fun h => hi (.inr h))
  inv_local x y xp xq j j' hag i hi := by
    rw [compose_inv, compose_inv]
    rcases hi with hi | hi
    · rw [h2.inv_eq x xp j, h2.inv_eq y xq j']
      exact h1.inv_local _ _ xp xq _ _ (fun k hk => hag k (.inl hk)) i hi
    · rw [h1.inv_frame _ i fun h => hP i ⟨h, hi⟩, h1.inv_frame _ i fun h => hP i ⟨h, hi⟩]
      exact h2.inv_local x y xp xq j j' (fun k hk => hag k (.inr hk)) i hi
  inv_jac x y xp xq j hag := by
    rw [compose_inv, compose_inv, h2.inv_eq x xp j, h2.inv_eq y xq 1, h2.inv_jac x y xp xq j fun k hk => hag k (.inr hk)]
    exact h1.inv_jac_mul _ _ _ _ fun k hk => hag k (.inl hk)
  roundtrip x xp j y j' hD i hi := by
    rw [compose_fwd, compose_inv]
    rcases hi with hi | hi
    · rw [h2.inv_eq]
      exact h1.roundtrip_of_agree hD.1 (fun k hk => h2.fwd_frame _ k fun h => hPP k ⟨hk, h⟩) hi
    · rw [h1.inv_frame _ i fun h => hP i ⟨h, hi⟩, h1.fwd_eq x xp j]
      exact h2.roundtrip x _ _ y j' hD.2 i hi
  jac x xp y hD := by
    -- the factors are `J1 · J2` and `I2 · I1`: the pair of `r1` cancels first (its inverse is handed `I2`), then that of `r2`
    rw [compose_fwd, compose_inv, h1.fwd_eq x xp 1, h2.inv_eq, h2.fwd_jac x _ (r1.fwd (x, xp, 1)).2.1, mul_right_comm,
      h1.jac_of_agree hD.1 fun k hk => h2.fwd_frame (x, _, _) k fun h => hPP k ⟨hk, h⟩, mul_comm]
    exact h2.jac_of_agree hD.2 fun _ _ => rfl

/-- an object together with the parameter sets and the regular domain it is lawful for -/
structure Entry (ι κ K : Type) where
  rep : Reparam (ι → K) (κ → K) K
  P : ι → Prop
  PP : κ → Prop
  D : (ι → K) → Prop

/-- every object lawful, parameters and prime parameters pairwise disjoint (what `CombinedReparameterisation`
assumes of the objects added to it) -/
def AllLawful (es : List (Entry ι κ K)) : Prop :=
  (∀ e ∈ es, Lawful e.rep e.P e.PP e.D) ∧
  es.Pairwise (fun a b => (∀ i, ¬ (a.P i ∧ b.P i)) ∧ (∀ k, ¬ (a.PP k ∧ b.PP k)))

def unionP (es : List (Entry ι κ K)) (i : ι) : Prop := ∃ e ∈ es, e.P i
def unionPP (es : List (Entry ι κ K)) (k : κ) : Prop := ∃ e ∈ es, e.PP k
def allD (es : List (Entry ι κ K)) (x : ι → K) : Prop := ∀ e ∈ es, e.D x

theorem seq_lawful (es : List (Entry ι κ K)) (h : AllLawful es) :
    Lawful (seq (es.map (·.rep))) (unionP es) (unionPP es) (allD es) := by
  induction es with
  | nil =>
    rw [List.map_nil, seq_nil]
    exact idReparam_lawful.congr (fun i => by simp [unionP]) (fun k => by simp [unionPP]) (fun _ _ => trivial)
  | cons e es ih =>
    obtain ⟨hl, hp⟩ := h
    rw [List.pairwise_cons] at hp
    have ih' := ih ⟨fun a ha => hl a (List.mem_cons_of_mem _ ha), hp.2⟩
    have he := hl e List.mem_cons_self
    rw [List.map_cons, seq_cons]
    refine (he.comp ih' ?_ ?_).congr ?_ ?_ ?_
    · rintro i ⟨h1, a, ha, h2⟩; exact (hp.1 a ha).1 i ⟨h1, h2⟩
    · rintro k ⟨h1, a, ha, h2⟩; exact (hp.1 a ha).2 k ⟨h1, h2⟩
    · intro i; simp [unionP]
    · intro k; simp [unionPP]
    · intro x hx; exact ⟨hx e List.mem_cons_self, fun a ha => hx a (List.mem_cons_of_mem _ ha)⟩

theorem allLawful_reverse (es : List (Entry ι κ K)) (h : AllLawful es) : AllLawful es.reverse := by
  refine ⟨fun e he => h.1 e (List.mem_reverse.mp he), ?_⟩
  rw [List.pairwise_reverse]
  exact h.2.imp (fun {a b} hab => ⟨fun i hi => hab.1 i ⟨hi.2, hi.1⟩, fun k hk => hab.2 k ⟨hk.2, hk.1⟩⟩)

theorem combined_lawful (es : List (Entry ι κ K)) (h : AllLawful es) (rev : Bool) :
    Lawful (combined (es.map (·.rep)) rev) (unionP es) (unionPP es) (allD es) := by
  rw [combined_eq_seq]
  cases rev
  · simpa using seq_lawful es h
  · have := seq_lawful es.reverse (allLawful_reverse es h)
    simp only [if_true, ← List.map_reverse]
    exact this.congr (fun i => by simp [unionP]) (fun k => by simp [unionPP])
      (fun x hx e he => hx e (List.mem_reverse.mp he))

variable [DecidableEq ι] [DecidableEq κ]

theorem ofScalar_lawful (p : ι) (pp : κ) (f g : K → K × K) (D : K → Prop)
    (h : ∀ a, D a → (g (f a).1).1 = a ∧ (f a).2 * (g (f a).1).2 = 1) :
    Lawful (ofScalar p pp f g) (fun i => i = p) (fun k => k = pp) (fun x => D (x p)) where
  fwd_x := fun _ => rfl
  fwd_frame := fun s k hk => by simp [ofScalar, upd, hk]
  fwd_local := fun x xp xq j j' k hk => by subst hk; simp [ofScalar, upd]
  fwd_jac := fun x xp xq j => by simp [ofScalar]
  inv_xp := fun _ => rfl
  inv_frame := fun s i hi => by simp [ofScalar, upd, hi]
  inv_local := fun x y xp xq j j' hag i hi => by subst hi; simp [ofScalar, upd, hag pp rfl]
  inv_jac := fun x y xp xq j hag => by simp [ofScalar, hag pp rfl]
  roundtrip := fun x xp j y j' hD i hi => by subst hi; simp [ofScalar, upd, (h _ hD).1]
  jac := fun x xp y hD => by simp [ofScalar, upd, (h _ hD).2]

namespace Lawful
variable {c : Reparam (ι → K) (ι → K) K} {P PP : ι → Prop} {D : (ι → K) → Prop} (hc : Lawful c P PP D)
include hc

theorem proposalRescale_apply (ns : List ι) (e x : ι → K) (k : ι) :
    (proposalRescale c ns e x).1 k = if k ∈ ns then x k else (c.fwd (x, e, 1)).2.1 k := by
  simp only [proposalRescale, hc.fwd_x]
  exact foldl_upd ns _ x k

theorem proposalInverseRescale_apply (ns : List ι) (e xp : ι → K) (i : ι) :
    (proposalInverseRescale c ns e xp).1 i = if i ∈ ns then xp i else (c.inv (e, xp, 1)).1 i := by
  simp only [proposalInverseRescale, hc.inv_xp]
  exact foldl_upd ns _ xp i

end Lawful

/-- the two-object list of the `example`s of Props/C07: halving on parameter 0 (a Rescale with scale 2) and a
NullReparameterisation on parameter 1 -/
def exampleEntries : List (Entry Nat Nat Rat) :=
  [⟨ofScalar (0 : Nat) (0 : Nat) (fun x : Rat => (x / 2, 1 / 2)) (fun y => (y * 2, 2)), (· = 0), (· = 0), fun _ => True⟩,
   ⟨nullReparam 1, (· = 1), (· = 1), fun _ => True⟩]

theorem exampleEntries_lawful : AllLawful exampleEntries := by
  refine ⟨?_, ?_⟩
  · intro e he
    simp only [exampleEntries, List.mem_cons, List.not_mem_nil, or_false] at he
    rcases he with rfl | rfl
    · exact ofScalar_lawful (K := Rat) 0 0 (fun x => (x / 2, 1 / 2)) (fun y => (y * 2, 2)) (fun _ => True)
        (fun a _ => ⟨by ring, by norm_num⟩)
    · exact ofScalar_lawful (K := Rat) 1 1 (fun x => (x, 1)) (fun x => (x, 1)) (fun _ => True) (fun a _ => ⟨rfl, by simp⟩)
  · simp only [exampleEntries, List.pairwise_cons, List.mem_cons, List.not_mem_nil, or_false, forall_eq, List.Pairwise.nil,
      and_true, IsEmpty.forall_iff, implies_true]
    exact ⟨fun i h => by omega, fun k h => by omega⟩

theorem exampleEntries_allD (x : Nat → Rat) : allD exampleEntries x := by
  intro e he
  simp only [exampleEntries, List.mem_cons, List.not_mem_nil, or_false] at he
  rcases he with rfl | rfl <;> trivial

end NessaiVerif.Reparam
