import NessaiVerif.Model.Pool
/-
C09 — handing out pool points (core Lean only): what a session of `draw`s returns is, in order, part of the reversed
index lists of the scripted populations.
-/
namespace NessaiVerif.Pool
open List

theorem popIndex_nil {st : HState} (h : st.indices = []) : popIndex st = (st, .errIndex) := by
  rw [popIndex, h]; rfl

theorem popIndex_concat {st : HState} {l : List Nat} {i : Nat} (h : st.indices = l ++ [i]) :
    popIndex st = ({ st with indices := l, populated := if l.isEmpty then false else st.populated },
      .handed st.count i st.pool[i]?) := by
  rw [popIndex, h, getLast?_concat, dropLast_concat]

theorem hstep_draw_populated {st : HState} (h : st.populated = true) (pops : List Pop) :
    hstep st pops .draw = ((popIndex st).1, pops, (popIndex st).2) :=
  if_pos h

theorem hstep_draw_exhausted {st : HState} (h : st.populated = false) : hstep st [] .draw = (st, [], .exhausted) :=
  if_neg (h ▸ Bool.false_ne_true)

theorem hstep_draw_install {st : HState} (h : st.populated = false) (p : Pop) (pops : List Pop) :
    hstep st (p :: pops) .draw = ((popIndex (install st p)).1, pops, (popIndex (install st p)).2) :=
  if_neg (h ▸ Bool.false_ne_true)

/-- a handed-out entry as `(population number, index, id)` -/
def Out.handed? : Out → Option (Nat × Nat × Option Nat)
  | .handed c i id => some (c, i, id)
  | _ => none

theorem handedKeys_eq (os : List Out) : handedKeys os = (os.filterMap Out.handed?).map fun t => (t.1, t.2.1) := by
  induction os with
  | nil => rfl
  | cons o os ih =>
    cases o with
    | handed c i id => exact congrArg ((c, i) :: ·) ih
    | _ => exact ih

/-- what populations numbered from `c` on hand out when each is drawn from until it is empty (`pop()` takes from the
    end of the index list) -/
def handouts (c : Nat) : List Pop → List (Nat × Nat × Option Nat)
  | [] => []
  | p :: ps => p.indices.reverse.map (fun i => (c, i, p.pool[i]?)) ++ handouts (c + 1) ps

/-- everything that can still be handed out: what is left of the current population, then the ones to come -/
def avail (st : HState) (pops : List Pop) : List (Nat × Nat × Option Nat) :=
  handouts st.count (⟨st.pool, st.indices⟩ :: pops)

theorem avail_popIndex (st : HState) (pops : List Pop) :
    [(popIndex st).2].filterMap Out.handed? ++ avail (popIndex st).1 pops = avail st pops := by
  rcases eq_nil_or_concat st.indices with h | ⟨l, i, h⟩
  · rw [popIndex_nil h]; rfl
  · rw [concat_eq_append] at h
    rw [popIndex_concat h, avail, avail, handouts, handouts, h, reverse_concat]; rfl

/-- a `draw` takes the next entry; a `draw` after an invalidation drops what is left of the current population -/
theorem hstep_avail (st : HState) (pops : List Pop) (op : Op) :
    [(hstep st pops op).2.2].filterMap Out.handed? ++ avail (hstep st pops op).1 (hstep st pops op).2.1
      <+ avail st pops := by
  cases op with
  | inval => exact Sublist.refl _
  | draw =>
    cases hp : st.populated with
    | true =>
      rw [hstep_draw_populated hp, avail_popIndex]
      exact Sublist.refl _
    | false =>
      cases pops with
      | nil => rw [hstep_draw_exhausted hp]; exact Sublist.refl _
      | cons p pops =>
        rw [hstep_draw_install hp, avail_popIndex]
        exact sublist_append_right _ _

theorem hrun_sublist : ∀ (ops : List Op) (st : HState) (pops : List Pop),
    (hrun st pops ops).filterMap Out.handed? <+ avail st pops
  | [], _, _ => nil_sublist _
  | op :: ops, st, pops => by
    -- `hrun` unfolds to `o :: hrun …`; written `[o] ++ …`, `filterMap_append` splits it the way `hstep_avail` is stated
    show filterMap _ ([_] ++ _) <+ _
    rw [filterMap_append]
    exact ((hrun_sublist ops _ _).append_left _).trans (hstep_avail st pops op)

theorem mem_handouts {c' i : Nat} {id : Option Nat} : ∀ {c : Nat} {pops : List Pop}, (c', i, id) ∈ handouts c pops →
    ∃ k p, c' = c + k ∧ pops[k]? = some p ∧ i ∈ p.indices ∧ id = p.pool[i]?
  | _, [], h => by cases h
  | c, p :: ps, h => by
    rcases mem_append.1 h with h | h
    · obtain ⟨j, hj, e⟩ := mem_map.1 h
      cases e
      exact ⟨0, p, rfl, rfl, mem_reverse.1 hj, rfl⟩
    · obtain ⟨k, q, rfl, hq⟩ := mem_handouts h
      exact ⟨k + 1, q, Nat.add_right_comm c 1 k, hq⟩

theorem nodup_handouts_keys : ∀ (c : Nat) (pops : List Pop), (∀ p ∈ pops, p.indices.Nodup) →
    ((handouts c pops).map fun t => (t.1, t.2.1)).Nodup
  | _, [], _ => nodup_nil
  | c, p :: ps, hp => by
    rw [handouts, map_append, nodup_append, map_map]
    refine ⟨?_, nodup_handouts_keys _ ps fun q hq => hp q (mem_cons_of_mem _ hq), ?_⟩
    · exact pairwise_map.2 ((pairwise_reverse.2 (hp p mem_cons_self)).imp fun h e => h (Prod.mk.inj e).2.symm)
    -- the populations to come have larger numbers
    · intro a ha b hb e
      obtain ⟨j, -, rfl⟩ := mem_map.1 ha
      obtain ⟨⟨c', i, id⟩, hb', rfl⟩ := mem_map.1 hb
      obtain ⟨k, -, rfl, -⟩ := mem_handouts hb'
      exact Nat.ne_of_lt (Nat.lt_add_right k c.lt_succ_self) (Prod.mk.inj e).1

end NessaiVerif.Pool
