import NessaiVerif.Proofs.Resample
import Mathlib.Analysis.SpecialFunctions.Log.Basic
/-
C16 helper: the log-space programs of the code, over extended log-values, and their
equality with the linear-domain model.

A log-value is `Option ℝ`: `none` is the float `-inf` (log of a zero weight / of a uniform draw 0).
`expE none = 0`.  IEEE rules used by the code are spelled out:
  `-inf - m = -inf` for finite `m`;  `x - (-inf)` with `x = -inf` is NaN and every comparison
  with NaN is False (all weights zero: `np.max(log_w) = -inf`);  `-inf > -inf` is False.
`logsumexp` is by definition `log Σ exp` (SciPy evaluates the same quantity with a max-shift).
These definitions are not executable (real exponentials); they are only the subject of the
bridging theorems in Props/C16.lean.
-/

namespace NessaiVerif.Resample
open Classical  -- `keepLog` is a `Prop` (comparisons of reals); the `if` on it in `rejLogGo` is decided by `propDecidable`

/-- a float log-value, `none` = `-inf` -/
abbrev LogVal := Option ℝ

/-- `np.exp` on log-values -/
noncomputable def expE : LogVal → ℝ
  | none => 0
  | some x => Real.exp x

/-- `np.log` of a draw `u ≥ 0` -/
noncomputable def logE (u : ℝ) : LogVal := if u = 0 then none else some (Real.log u)

/-- IEEE `a > b` on log-values -/
def gtE : LogVal → LogVal → Prop
  | some x, some y => y < x
  | some _, none => True
  | none, _ => False

/-- IEEE `max` of two log-values -/
noncomputable def max2E : LogVal → LogVal → LogVal
  | none, m => m
  | some x, none => some x
  | some x, some y => some (max x y)

/-- `np.max(log_w)` (identity `-inf`) -/
noncomputable def maxE : List LogVal → LogVal
  | [] => none
  | a :: as => max2E a (maxE as)

/-- the test `log_w[i] - np.max(log_w) > log_u[i]`; when the maximum is `-inf` the left side is NaN -/
def keepLog (M a lu : LogVal) : Prop :=
  match M with
  | none => False
  | some m => gtE (a.map (fun x => x - m)) lu

/-- `np.where(log_w - np.max(log_w) > log_u)[0]` with an explicit position counter -/
noncomputable def rejLogGo (M : LogVal) : Nat → List LogVal → List LogVal → List Nat
  | _, [], _ => []
  | _, _ :: _, [] => []
  | k, a :: as, l :: ls =>
    if keepLog M a l then k :: rejLogGo M (k + 1) as ls else rejLogGo M (k + 1) as ls

/-- rejection sampling exactly as written in `draw_posterior_samples`, on log-weights `lw` and draws `us` -/
noncomputable def rejLog (lw : List LogVal) (us : List ℝ) : List Nat :=
  rejLogGo (maxE lw) 0 lw (us.map logE)

/-- `logsumexp(log_w)` -/
noncomputable def lseE (lw : List LogVal) : ℝ := Real.log (lsum (lw.map expE))

/-- `log_w - c` for a finite `c` -/
def subE (lw : List LogVal) (c : ℝ) : List LogVal := lw.map (fun a => a.map (fun x => x - c))

/-- `log_w + c` -/
def shiftE (c : ℝ) (lw : List LogVal) : List LogVal := lw.map (fun a => a.map (fun x => x + c))

/-- `np.exp(log_w - logsumexp(log_w))`: the `p=` argument of `np.random.choice` -/
noncomputable def probsLog (lw : List LogVal) : List ℝ := (subE lw (lseE lw)).map expE

/-- `effective_sample_size`: `log_w -= logsumexp(log_w); exp(-logsumexp(2 * log_w))` -/
noncomputable def essLog (lw : List LogVal) : ℝ :=
  Real.exp (-(lseE ((subE lw (lseE lw)).map (fun a => a.map (fun x => 2 * x)))))

theorem expE_nonneg (a : LogVal) : 0 ≤ expE a := by
  cases a with
  | none => exact le_rfl
  | some x => exact (Real.exp_pos x).le

theorem expE_sub (a : LogVal) (c : ℝ) : expE (a.map (fun x => x - c)) = expE a / Real.exp c := by
  cases a with
  | none => exact (zero_div _).symm
  | some x => exact Real.exp_sub x c

theorem expE_add (a : LogVal) (c : ℝ) : expE (a.map (fun x => x + c)) = Real.exp c * expE a := by
  cases a with
  | none => exact (mul_zero _).symm
  | some x => exact (Real.exp_add x c).trans (mul_comm _ _)

theorem expE_two_mul (a : LogVal) : expE (a.map (fun x => 2 * x)) = expE a * expE a := by
  cases a with
  | none => exact (mul_zero _).symm
  | some x => exact (congrArg Real.exp (two_mul x)).trans (Real.exp_add x x)

theorem expE_max2E (a b : LogVal) : expE (max2E a b) = max (expE a) (expE b) := by
  cases a with
  | none => exact (max_eq_right (expE_nonneg b)).symm
  | some x =>
    cases b with
    | none => exact (max_eq_left (Real.exp_pos x).le).symm
    | some y => exact Real.exp_monotone.map_max

theorem lmax_map_expE (lw : List LogVal) : lmax (lw.map expE) = expE (maxE lw) := by
  induction lw with
  | nil => rfl
  | cons a as ih => rw [List.map_cons, lmax_cons, ih, maxE, expE_max2E]

theorem gtE_logE (a : LogVal) {u : ℝ} (hu : 0 ≤ u) : gtE a (logE u) ↔ u < expE a := by
  cases a with
  | none => exact iff_of_false id hu.not_gt
  | some x =>
    rcases hu.eq_or_lt with rfl | hpos
    · rw [logE, if_pos rfl]
      exact iff_of_true trivial (Real.exp_pos x)
    · rw [logE, if_neg hpos.ne']
      exact Real.log_lt_iff_lt_exp hpos

theorem keep_iff_keepLog (M a : LogVal) (u : ℝ) (hu : 0 ≤ u) :
    keep (expE M) (expE a) u = true ↔ keepLog M a (logE u) := by
  rw [keep_iff]
  cases M with
  | none => exact iff_of_false (by rwa [expE, div_zero, not_lt]) id
  | some m => rw [keepLog, gtE_logE _ hu, expE_sub, expE]

theorem rejLogGo_eq (M : LogVal) (k : Nat) (lw : List LogVal) (us : List ℝ) (hu : ∀ u ∈ us, 0 ≤ u) :
    rejLogGo M k lw (us.map logE) = rejGo (expE M) k (lw.map expE) us := by
  induction lw generalizing k us with
  | nil => simp [rejLogGo, rejGo]
  | cons a as ih =>
    cases us with
    | nil => simp [rejLogGo, rejGo]
    | cons u us =>
      rw [List.forall_mem_cons] at hu
      simp only [List.map_cons, rejLogGo, rejGo, keep_iff_keepLog M a u hu.1, ih _ us hu.2]

theorem map_expE_shiftE (c : ℝ) (lw : List LogVal) :
    (shiftE c lw).map expE = (lw.map expE).map (fun x => Real.exp c * x) := by
  rw [shiftE, List.map_map, List.map_map]
  exact List.map_congr_left fun a _ => expE_add a c

theorem lsum_map_expE_pos {lw : List LogVal} {x : ℝ} (h : some x ∈ lw) : 0 < lsum (lw.map expE) :=
  (Real.exp_pos x).trans_le
    (le_lsum_of_mem (List.forall_mem_map.mpr fun a _ => expE_nonneg a) (List.mem_map_of_mem (f := expE) h))

theorem lsum_map_expE_shiftE_pos (c : ℝ) (lw : List LogVal) (hS : 0 < lsum (lw.map expE)) :
    0 < lsum ((shiftE c lw).map expE) := by
  rw [map_expE_shiftE, lsum_map_mul_left]
  exact mul_pos (Real.exp_pos c) hS

end NessaiVerif.Resample
