import NessaiVerif.Gen.Threshold
import Mathlib.Algebra.Order.Field.Basic
import Mathlib.Tactic.Linarith
/- C17: the generated clamp is the composition of two named stages (`clampIndex_eq`); a threshold read at index `n` of a
   sorted list removes `n` samples when there is no tie at the cut and at most `n` otherwise; the weighted quantile `wq` is
   the dot product of the data with the increments of the table, which bounds it and (Abel summation) orders it. -/
namespace NessaiVerif.Threshold

section Clamp
open NessaiVerif.Gen.Threshold

/-- what `determine_log_likelihood_threshold` makes of the cut `c` in its `min_samples` / `min_remove`
step: keep `min_samples` if `c` would leave fewer, otherwise remove at least `min_remove` -/
def clampMinima (size minSamples minRemove c : Int) : Int :=
  if size - c < minSamples then max 0 (size - minSamples) else max c minRemove

/-- the cap the `max_samples` step works with: `max_samples` when `draw_constant and max_samples` -/
def maxSamplesInForce (maxSamples : Option Int) (drawConstant : Bool) : Option Int :=
  if drawConstant = true ∧ truthyOpt maxSamples = true then maxSamples else none

/-- the `max_samples` step: with a cap `m` in force the index is raised until the next level
(`size - n` survivors plus `nlive` new samples) fits into `m` -/
def clampMaxSamples (size nlive : Int) : Option Int → Int → Int
  | some m, n => max n (size - m + nlive)
  | none, n => n

theorem maxSamplesInForce_eq_some {maxSamples : Option Int} {drawConstant : Bool} {m : Int} :
    maxSamplesInForce maxSamples drawConstant = some m ↔
      drawConstant = true ∧ maxSamples = some m ∧ m ≠ 0 := by
  unfold maxSamplesInForce
  constructor
  · intro h
    split at h
    · subst h; simp_all [truthyOpt]
    · cases h
  · rintro ⟨rfl, rfl, hm⟩; simp [truthyOpt, hm]

/-- the generated clamp is the `max_samples` step after the minima step, applied to the cut after `n == 0 → 1`;
`hr` is used only to exclude the early integer return (`min_remove < 1`) -/
theorem clampIndex_eq {n0 size minSamples minRemove nlive : Int} {maxSamples : Option Int}
    {drawConstant : Bool} (hr : 1 ≤ minRemove) :
    clampIndex n0 size minSamples minRemove nlive maxSamples drawConstant =
      Clamp.index (clampMaxSamples size nlive (maxSamplesInForce maxSamples drawConstant)
        (clampMinima size minSamples minRemove (if n0 = 0 then 1 else n0))) := by
  have hmin (c : Int) : (if size - c < minSamples then max 0 (size - minSamples)
      else if c < minRemove then minRemove else c) = clampMinima size minSamples minRemove c := by
    unfold clampMinima
    congr 1
    omega
  have hmax (n : Int) : (if drawConstant = true ∧ truthyOpt maxSamples = true ∧
      size - n + nlive > optGet maxSamples then size - optGet maxSamples + nlive else n)
      = clampMaxSamples size nlive (maxSamplesInForce maxSamples drawConstant) n := by
    unfold maxSamplesInForce
    by_cases h : drawConstant = true ∧ truthyOpt maxSamples = true
    · obtain ⟨m, rfl⟩ : ∃ m, maxSamples = some m := by
        cases maxSamples with
        | none => exact absurd h.2 (by simp [truthyOpt])
        | some m => exact ⟨m, rfl⟩
      simp only [h, true_and, and_self, if_true, clampMaxSamples, optGet, Option.getD_some]; omega
    · rw [if_neg h, if_neg (fun h' => h ⟨h'.1, h'.2.1⟩)]; rfl
  unfold clampIndex
  simp only [hmin, hmax, if_neg (not_lt.mpr hr)]
  split <;> rfl

theorem clampMinima_mem {size minSamples minRemove : Int} (c : Int) (hs : 1 ≤ minSamples)
    (hr : 1 ≤ minRemove) (hrs : minRemove < size) :
    0 ≤ clampMinima size minSamples minRemove c ∧ clampMinima size minSamples minRemove c < size := by
  unfold clampMinima; omega

theorem pySliceLen_of_nonneg (size : Nat) {n : Int} (h : 0 ≤ n) :
    pySliceLen size n = size - n.toNat := by
  rw [pySliceLen, pySliceStart, if_pos h, Nat.min_comm, ← Nat.sub_eq_sub_min]

theorem pySliceLen_of_neg (size : Nat) {n : Int} (h : n < 0) :
    pySliceLen size n = min size (-n).toNat := by
  rw [pySliceLen, pySliceStart, if_neg (not_le.mpr h)]; omega

end Clamp

section Count
variable {α : Type} [LinearOrder α]

theorem countBelow_append (thr : α) (xs ys : List α) :
    countBelow thr (xs ++ ys) = countBelow thr xs + countBelow thr ys := by
  simp [countBelow, List.filter_append]

theorem countBelow_le_length (thr : α) (xs : List α) : countBelow thr xs ≤ xs.length :=
  List.length_filter_le _ _

theorem countBelow_of_all_lt (thr : α) (xs : List α) (h : ∀ x ∈ xs, x < thr) :
    countBelow thr xs = xs.length := by
  unfold countBelow
  rw [List.filter_eq_self.mpr]
  intro x hx
  simpa using h x hx

theorem countBelow_of_all_ge (thr : α) (xs : List α) (h : ∀ x ∈ xs, thr ≤ x) :
    countBelow thr xs = 0 := by
  unfold countBelow
  rw [List.length_eq_zero_iff, List.filter_eq_nil_iff]
  intro x hx
  simpa using h x hx

theorem countBelow_getElem (xs : List α) (n : Nat) (hn : n < xs.length)
    (hsorted : xs.Pairwise (· ≤ ·)) :
    countBelow xs[n] xs = countBelow xs[n] (xs.take n) := by
  have hsplit : countBelow xs[n] xs = countBelow xs[n] (xs.take n ++ xs.drop n) := by
    rw [List.take_append_drop]
  rw [hsplit, countBelow_append, countBelow_of_all_ge _ (xs.drop n), Nat.add_zero]
  have hd := hsorted.drop (i := n)
  rw [List.drop_eq_getElem_cons hn] at hd ⊢
  exact List.forall_mem_cons.mpr ⟨le_rfl, (List.pairwise_cons.mp hd).1⟩

/-- On a sorted list, if everything before position `n` is strictly below `xs[n]` (no tie at the cut), exactly `n` samples
are strictly below the threshold `xs[n]`. -/
theorem countBelow_eq_index (xs : List α) (n : Nat) (hn : n < xs.length)
    (hsorted : xs.Pairwise (· ≤ ·))
    (hcut : ∀ i (hi : i < n), xs[i]'(by omega) < xs[n]) :
    countBelow xs[n] xs = n := by
  rw [countBelow_getElem xs n hn hsorted, countBelow_of_all_lt, List.length_take_of_le hn.le]
  intro y hy
  obtain ⟨i, hi, rfl⟩ := List.mem_take_iff_getElem.mp hy
  exact hcut i (by omega)

/-- whatever the ties, a threshold read at position `n` of a sorted list never removes more than `n` -/
theorem countBelow_le_index (xs : List α) (n : Nat) (hn : n < xs.length)
    (hsorted : xs.Pairwise (· ≤ ·)) : countBelow xs[n] xs ≤ n := by
  rw [countBelow_getElem xs n hn hsorted]
  exact (countBelow_le_length _ _).trans (List.length_take_le n xs)

theorem countKept_eq (thr : α) (xs : List α) :
    countKept thr xs + countBelow thr xs = xs.length :=
  Nat.sub_add_cancel (countBelow_le_length thr xs)

end Count

theorem finish_index {α : Type} (xs : List α) (n : Int) (h0 : 0 ≤ n) (h1 : n < (xs.length : Int)) :
    finish xs (Clamp.index n) = Outcome.threshold n.toNat (xs[n.toNat]'(by omega)) := by
  simp [finish, pyIndex, h0, h1]

section Quantile
variable {K : Type} [Field K]

theorem wq_eq_dot : ∀ (tbl vals : List K),
    wq tbl vals = (List.zipWith (· * ·) (wqWeights tbl) vals).sum
  | [], _ => rfl
  | [_], _ => rfl
  | _ :: _ :: _, [] => rfl
  | t0 :: t1 :: ts, v :: vs => by
    rw [wq, wqWeights, List.zipWith_cons_cons, List.sum_cons, wq_eq_dot (t1 :: ts) vs]

theorem wqWeights_sum : ∀ (t0 : K) (ts : List K),
    (wqWeights (t0 :: ts)).sum = (t0 :: ts).getLastD 0 - t0
  | t0, [] => by simp [wqWeights]
  | t0, t1 :: ts => by
    have ih := wqWeights_sum t1 ts
    simp only [wqWeights, List.sum_cons, ih]
    simp

theorem wqWeights_length : ∀ (tbl : List K), (wqWeights tbl).length = tbl.length - 1
  | [] => rfl
  | [_] => rfl
  | t0 :: t1 :: ts => by
    rw [wqWeights, List.length_cons, wqWeights_length (t1 :: ts)]; rfl

variable [LinearOrder K] [IsStrictOrderedRing K]

theorem wqWeights_nonneg : ∀ (tbl : List K), tbl.Pairwise (· ≤ ·) → ∀ w ∈ wqWeights tbl, 0 ≤ w
  | [], _ => fun _ h => nomatch h
  | [_], _ => fun _ h => nomatch h
  | t0 :: t1 :: ts, h => by
    have h' := List.pairwise_cons.mp h
    rw [wqWeights, List.forall_mem_cons]
    exact ⟨sub_nonneg.mpr (h'.1 t1 List.mem_cons_self), wqWeights_nonneg (t1 :: ts) h'.2⟩

theorem dot_bounds (lo hi : K) : ∀ (w vals : List K), (∀ x ∈ w, 0 ≤ x) → w.length ≤ vals.length →
    (∀ v ∈ vals, lo ≤ v ∧ v ≤ hi) →
    w.sum * lo ≤ (List.zipWith (· * ·) w vals).sum ∧ (List.zipWith (· * ·) w vals).sum ≤ w.sum * hi
  | [], _, _, _, _ => by simp
  | _ :: _, [], _, hl, _ => by simp at hl
  | x :: w, v :: vals, hw, hl, hv => by
    have ih := dot_bounds lo hi w vals (fun y hy => hw y (List.mem_cons_of_mem _ hy))
      (Nat.le_of_succ_le_succ hl) (fun y hy => hv y (List.mem_cons_of_mem _ hy))
    have hx := hw x List.mem_cons_self
    have hv0 := hv v List.mem_cons_self
    rw [List.zipWith_cons_cons, List.sum_cons, List.sum_cons, add_mul, add_mul]
    exact ⟨add_le_add (mul_le_mul_of_nonneg_left hv0.1 hx) ih.1,
      add_le_add (mul_le_mul_of_nonneg_left hv0.2 hx) ih.2⟩

/-- Abel summation, the core of the monotonicity in `q`: `s` is the CDF table of the stochastically larger
distribution, `v` a lower bound of the sorted data.  The right side `(s0 - t0) * v` is there for the induction: the tails start
with `s1 ≤ t1`, not with equal entries; where `quantile_monotone` calls this, `s0 = t0` and it is 0. -/
theorem wq_sub_le {ss ts : List K} (hf : List.Forall₂ (· ≤ ·) ss ts) :
    ∀ (s0 t0 v : K) (vals : List K), s0 ≤ t0 → ts.length = vals.length →
    vals.Pairwise (· ≤ ·) → (∀ x ∈ vals, v ≤ x) → (t0 :: ts).getLastD 0 = (s0 :: ss).getLastD 0 →
    wq (t0 :: ts) vals - wq (s0 :: ss) vals ≤ (s0 - t0) * v := by
  induction hf with
  | nil =>
    intro s0 t0 v vals _ _ _ _ hlast
    have : t0 = s0 := hlast
    simp [wq, this]
  | @cons s1 t1 ss ts h1 _ ih =>
    intro s0 t0 v vals h0 hl hp hv hlast
    obtain _ | ⟨v1, vs⟩ := vals
    · simp at hl
    have hp' := List.pairwise_cons.mp hp
    -- the hypothesis at the tails, with the head `v1` as lower bound of the remaining data
    have := ih s1 t1 v1 vs h1 (by simpa using hl) hp'.2 hp'.1 hlast
    simp only [wq]
    linarith [mul_le_mul_of_nonneg_left (hv v1 List.mem_cons_self) (sub_nonneg.mpr h0)]

end Quantile
end NessaiVerif.Threshold
