import NessaiVerif.Proofs.Reparam
/-
C07 — RescaleToBounds.  In the unit coordinate `u = r.unit y` the core step of `reparameterise` is `u ↦ ±(g·u + t)` in every
case; from that one form: the step and its inverse are a lawful scalar pair under the exact regularity guard, the reported
factor is the absolute slope, and the values taken on the prior interval are the image of an interval under `y ↦ c·y + d` and `±`.
-/
namespace NessaiVerif.Reparam

variable {K : Type} [Field K] [LinearOrder K] [IsStrictOrderedRing K]

/-- the value of `rescale_zero_to_one(y - offset, b0, b1)` -/
def Rtb.unit (r : Rtb K) (y : K) : K := (y - r.offset - r.b0) / (r.b1 - r.b0)

/-- does `_apply_inversion` reflect (edge truthy)? -/
def Rtb.reflects (r : Rtb K) : Prop :=
  r.inversion.isSome = true ∧ r.edge ≠ .unset ∧ r.edge ≠ .off

/-- Regularity guard of the reflection: the rescaled value lies on the side of the edge that is kept,
i.e. the value that gets a random sign is non-negative. -/
def Rtb.ReflectOK (r : Rtb K) (y : K) : Prop :=
  r.reflects → if r.edge = .upper then r.unit y ≤ 1 else 0 ≤ r.unit y

/-- guard of the plain rescaling: the target interval is not degenerate -/
def Rtb.FactorOK (r : Rtb K) : Prop := r.inversion = none → r.r0 ≠ r.r1

/-- what multiplies the unit coordinate: `_rescale_factor` in `_rescale_to_bounds`, `2` in `rescale_minus_one_to_one`
(inversion configured, edge `None`/`False`), `-1` for the `1 - x` of the upper edge, `1` for any other edge -/
def Rtb.gain (r : Rtb K) : K :=
  match r.inversion, r.edge with
  | none, _ => r.factor
  | some _, .unset | some _, .off => 2
  | some _, .upper => -1
  | some _, _ => 1

/-- what is added after that: `_rescale_shift`, the `- 1` of `rescale_minus_one_to_one`, the `1` of `1 - x`, nothing -/
def Rtb.icpt (r : Rtb K) : K :=
  match r.inversion, r.edge with
  | none, _ => r.shift
  | some _, .unset | some _, .off => -1
  | some _, .upper => 1
  | some _, _ => 0

/-- the `*= -1` of `_apply_inversion`: only where an edge is reflected, and there on the points with the sign bit set -/
def Rtb.sgn (r : Rtb K) (neg : Bool) : K :=
  match r.inversion, r.edge with
  | none, _ | some _, .unset | some _, .off => 1
  | some _, _ => if neg then -1 else 1

/-- the value of the core step before the sign is applied -/
def Rtb.kept (r : Rtb K) (y : K) : K := r.gain * r.unit y + r.icpt

theorem rtbCore_eq (r : Rtb K) (neg : Bool) (y : K) :
    rtbCore r neg y = (r.sgn neg * r.kept y, |r.gain| / (r.b1 - r.b0)) := by
  unfold rtbCore Rtb.kept Rtb.gain Rtb.icpt Rtb.sgn Rtb.unit
  cases r.inversion with
  | none => simp only [Rtb.factor, abs_of_nonneg (ptp_nonneg r.r0 r.r1), one_mul]
  | some t =>
    cases r.edge <;> cases neg <;>
      simp only [rescaleMinusOneToOne, rescaleZeroToOne, two_eq, abs_two, abs_one, abs_neg, reduceCtorEq, if_true, if_false,
        Bool.false_eq_true, Prod.mk.injEq, and_true] <;> ring

theorem Rtb.abs_sgn (r : Rtb K) (neg : Bool) : |r.sgn neg| = 1 := by
  unfold Rtb.sgn; split
  · exact abs_one
  · exact abs_one
  · exact abs_one
  · split <;> simp

theorem Rtb.gain_ne_zero (r : Rtb K) (hf : r.FactorOK) : r.gain ≠ 0 := by
  unfold Rtb.gain; split
  · exact ptp_ne_zero (hf ‹_›)
  all_goals norm_num

theorem Rtb.ReflectOK.kept_nonneg {r : Rtb K} {y : K} (h : r.ReflectOK y) (hr : r.reflects) : 0 ≤ r.kept y := by
  have hu := h hr
  obtain ⟨hi, h1, h2⟩ := hr
  unfold Rtb.kept Rtb.gain Rtb.icpt
  cases hinv : r.inversion with
  | none => rw [hinv] at hi; cases hi
  | some t =>
    cases he : r.edge with
    | unset => exact absurd he h1
    | off => exact absurd he h2
    | upper => rw [if_pos he] at hu; simp only [neg_one_mul, neg_add_eq_sub, sub_nonneg]; exact hu
    | lower | both | other =>
      rw [if_neg (by rw [he]; decide)] at hu; simp only [one_mul, add_zero]; exact hu

theorem rtbCoreInv_sgn_mul (r : Rtb K) (neg : Bool) (v : K) (hv : r.reflects → 0 ≤ v) :
    rtbCoreInv r (r.sgn neg * v) =
      ((r.b1 - r.b0) * ((v - r.icpt) / r.gain) + r.b0 + r.offset, (r.b1 - r.b0) / |r.gain|) := by
  -- `_reverse_inversion` takes `|y|`, which the model spells `if y < 0 then -y else y`.  `habs` (`|±v| = v`) is stated with `absK`
  -- so that `absK_eq` applies; unfolding `absK` then gives it the model's `if`, ready for `rw` below.
  have habs : r.reflects → absK (r.sgn neg * v) = v := fun h => by
    rw [absK_eq, abs_mul, r.abs_sgn, one_mul, abs_of_nonneg (hv h)]
  unfold Rtb.reflects absK at habs
  unfold rtbCoreInv Rtb.gain Rtb.icpt
  cases hinv : r.inversion with
  | none => simp only [Rtb.sgn, hinv, Rtb.factor, abs_of_nonneg (ptp_nonneg r.r0 r.r1), one_mul, mul_div_assoc]
  | some t =>
    cases hedge : r.edge with
    | unset | off => simp only [Rtb.sgn, hinv, hedge, inverseRescaleMinusOneToOne, two_eq, abs_two, one_mul, sub_neg_eq_add]
    | upper =>
      rw [habs ⟨by rw [hinv]; rfl, by rw [hedge]; decide, by rw [hedge]; decide⟩]
      simp only [inverseRescaleZeroToOne, if_true, abs_neg, abs_one, div_one, div_neg, neg_sub]
    | lower | both | other =>
      rw [habs ⟨by rw [hinv]; rfl, by rw [hedge]; decide, by rw [hedge]; decide⟩]
      simp only [inverseRescaleZeroToOne, reduceCtorEq, if_false, abs_one, div_one, sub_zero]

theorem rtbCore_lawful (r : Rtb K) (neg : Bool) (y : K) (hb : r.b0 ≠ r.b1) (hf : r.FactorOK)
    (hok : r.ReflectOK y) : ScalarLawfulAt (rtbCore r neg) (rtbCoreInv r) y := by
  have hne : r.b1 - r.b0 ≠ 0 := sub_ne_zero.mpr hb.symm
  have hg : r.gain ≠ 0 := r.gain_ne_zero hf
  have hg' : |r.gain| ≠ 0 := abs_ne_zero.mpr hg
  unfold ScalarLawfulAt
  rw [rtbCore_eq, rtbCoreInv_sgn_mul r neg _ hok.kept_nonneg]
  constructor
  · simp only [Rtb.kept, Rtb.unit]; field_simp; ring
  · simp only; field_simp

theorem rtbCore_affine_form (r : Rtb K) (neg : Bool) (hb : r.b0 < r.b1) :
    ∃ c d : K, (∀ y, (rtbCore r neg y).1 = c * y + d) ∧ (∀ y, (rtbCore r neg y).2 = |c|) := by
  refine ⟨r.sgn neg * r.gain / (r.b1 - r.b0),
    r.sgn neg * (r.gain * ((-r.offset - r.b0) / (r.b1 - r.b0)) + r.icpt), fun y => ?_, fun y => ?_⟩
  · rw [rtbCore_eq, Rtb.kept, Rtb.unit]; ring
  · rw [rtbCore_eq, abs_div, abs_mul, r.abs_sgn, one_mul, abs_of_pos (sub_pos.mpr hb)]

theorem rtbCore_affineJ (r : Rtb K) (neg : Bool) (hb : r.b0 < r.b1) : AffineJ (rtbCore r neg) :=
  let ⟨_, _, hv, hj⟩ := rtbCore_affine_form r neg hb
  .of_affine hv hj

theorem rtbCore_jac_pos (r : Rtb K) (neg : Bool) (y : K) (hb : r.b0 < r.b1) (hf : r.FactorOK) :
    0 < (rtbCore r neg y).2 := by
  rw [rtbCore_eq]
  exact div_pos (abs_pos.mpr (r.gain_ne_zero hf)) (sub_pos.mpr hb)

/-- `y'` and `false` on the right only: `C07.prime_prior_value` needs one constant for all points and both sign bits -/
theorem rtbCore_jac_const (r : Rtb K) (neg : Bool) (y y' : K) : (rtbCore r neg y).2 = (rtbCore r false y').2 := by
  rw [rtbCore_eq, rtbCore_eq]

/-- hooks lawful at the points where they are applied -/
def Rtb.HooksOK (r : Rtb K) (neg : Bool) (x : K) : Prop :=
  ScalarLawfulAt r.preF r.preI x ∧ ScalarLawfulAt r.postF r.postI (rtbCore r neg (r.preF x).1).1

theorem rtb_lawful (r : Rtb K) (neg : Bool) (x : K) (hb : r.b0 ≠ r.b1) (hf : r.FactorOK)
    (hok : r.ReflectOK (r.preF x).1) (hh : r.HooksOK neg x) :
    ScalarLawfulAt (rtbFwd r neg) (rtbInv r) x := by
  obtain ⟨⟨hp1, hp2⟩, ⟨hq1, hq2⟩⟩ := hh
  obtain ⟨hc1, hc2⟩ := rtbCore_lawful r neg (r.preF x).1 hb hf hok
  unfold ScalarLawfulAt rtbFwd rtbInv
  simp only
  rw [hq1, hc1, hp1]
  refine ⟨rfl, ?_⟩
  rw [show ∀ a b c c' b' a' : K, a * b * c * (c' * b' * a') = a * a' * (b * b') * (c * c') from
    fun _ _ _ _ _ _ => by ring, hp2, hc2, hq2, one_mul, one_mul]

omit [IsStrictOrderedRing K] in
theorem hooksOK_none {r : Rtb K} {neg : Bool} {x : K} (h1 : r.pre = none) (h2 : r.post = none) : r.HooksOK neg x := by
  unfold Rtb.HooksOK ScalarLawfulAt Rtb.preF Rtb.preI Rtb.postF Rtb.postI
  rw [h1, h2]; simp

/-- the factors the hooks report at the points where they are applied are positive (they are `exp` of a log-Jacobian) -/
def Rtb.HooksPos (r : Rtb K) (neg : Bool) (x : K) : Prop :=
  0 < (r.preF x).2 ∧ 0 < (r.postF (rtbCore r neg (r.preF x).1).1).2

theorem hooksPos_none {r : Rtb K} {neg : Bool} {x : K} (h1 : r.pre = none) (h2 : r.post = none) : r.HooksPos neg x := by
  unfold Rtb.HooksPos Rtb.preF Rtb.postF
  rw [h1, h2]; simp

theorem rtb_lawful_pos (r : Rtb K) (neg : Bool) (x : K) (hb : r.b0 < r.b1) (hf : r.FactorOK)
    (hok : r.ReflectOK (r.preF x).1) (hh : r.HooksOK neg x) (hp : r.HooksPos neg x) :
    (rtbInv r (rtbFwd r neg x).1).1 = x ∧ (rtbFwd r neg x).2 * (rtbInv r (rtbFwd r neg x).1).2 = 1 ∧
    0 < (rtbFwd r neg x).2 ∧ 0 < (rtbInv r (rtbFwd r neg x).1).2 := by
  have hl := rtb_lawful r neg x (ne_of_lt hb) hf hok hh
  have hJ : 0 < (rtbFwd r neg x).2 := mul_pos (mul_pos hp.1 (rtbCore_jac_pos r neg _ hb hf)) hp.2
  exact ⟨hl.1, hl.2, hJ, pos_of_mul_pos_right (hl.2.symm ▸ one_pos) hJ.le⟩

theorem preF_affineJ_none (r : Rtb K) (h : r.pre = none) : AffineJ r.preF := by
  unfold Rtb.preF; rw [h]; exact AffineJ.id

theorem postF_affineJ_none (r : Rtb K) (h : r.post = none) : AffineJ r.postF := by
  unfold Rtb.postF; rw [h]; exact AffineJ.id

omit [Field K] [LinearOrder K] [IsStrictOrderedRing K] in
/-- `detect_edge` changes the `edge` field only -/
theorem rtbDetect_eq (r : Rtb K) (test : Edge) : rtbDetect r test = { r with edge := (rtbDetect r test).edge } := by
  unfold rtbDetect; split <;> rfl

omit [IsStrictOrderedRing K] in
theorem rtbInit_ok {p0 p1 : K} {rb : Option (K × K)} {inv : Option InvType} {oinv det off upd : Bool}
    {pre post : Option (Hook K)} {plog prior : Bool} {r : Rtb K}
    (h : rtbInit p0 p1 rb inv oinv det off upd pre post plog prior = .ok r) :
    r = rtbMk p0 p1 rb inv det off upd pre post plog prior := by
  unfold rtbInit at h
  split_ifs at h <;> exact (Except.ok.inj h).symm

omit [LinearOrder K] [IsStrictOrderedRing K] in
theorem Rtb.unit_of_bounds {r : Rtb K} {lo hi : K} (hb0 : r.b0 = lo - r.offset) (hb1 : r.b1 = hi - r.offset) (y : K) :
    r.unit y = (y - lo) / (hi - lo) := by
  rw [Rtb.unit, hb0, hb1, sub_sub_sub_cancel_right, sub_sub_sub_cancel_right]

/-- `[lo, hi]`: the prior box before an update, the data range after it -/
theorem rtb_lawful_of_bounds (r : Rtb K) (neg : Bool) (x lo hi : K) (hw : lo < hi) (hpre : r.pre = none)
    (hpost : r.post = none) (hb0 : r.b0 = lo - r.offset) (hb1 : r.b1 = hi - r.offset) (hf : r.FactorOK)
    (hside : r.reflects → if r.edge = .upper then x ≤ hi else lo ≤ x) :
    (rtbInv r (rtbFwd r neg x).1).1 = x ∧ (rtbFwd r neg x).2 * (rtbInv r (rtbFwd r neg x).1).2 = 1 ∧
    0 < (rtbFwd r neg x).2 ∧ 0 < (rtbInv r (rtbFwd r neg x).1).2 := by
  have hd : 0 < hi - lo := sub_pos.mpr hw
  refine rtb_lawful_pos r neg x (by rw [hb0, hb1]; exact sub_lt_sub_right hw _) hf (fun hr => ?_)
    (hooksOK_none hpre hpost) (hooksPos_none hpre hpost)
  rw [Rtb.unit_of_bounds hb0 hb1, show (r.preF x).1 = x by unfold Rtb.preF; rw [hpre]]
  have hs := hside hr
  split
  · rw [if_pos ‹_›] at hs; exact (div_le_one hd).mpr (sub_le_sub_right hs lo)
  · rw [if_neg ‹_›] at hs; exact div_nonneg (sub_nonneg.mpr hs) hd.le

/-- `pre_prior_bounds[p]` -/
def Rtb.P0 (r : Rtb K) : K := (r.preF r.p0).1
def Rtb.P1 (r : Rtb K) : K := (r.preF r.p1).1

omit [IsStrictOrderedRing K] in
theorem primeBounds_eq (r : Rtb K) (h : r.hasPrimePrior = true) :
    rtbPrimeBounds r = some (determineRescaledBounds r.P0 r.P1 r.b0 r.b1
      (if r.inversion.isSome then r.edge else .unset) r.inversion.isSome r.offset r.r0 r.r1) := by
  unfold rtbPrimeBounds Rtb.P0 Rtb.P1; simp [h]

/-- `[lo, hi]` is exactly the set of values the core step takes on `[P0, P1]` (over both sign choices) -/
def IsImage (r : Rtb K) (lo hi : K) : Prop :=
  (∀ y neg, r.P0 ≤ y → y ≤ r.P1 → lo ≤ (rtbCore r neg y).1 ∧ (rtbCore r neg y).1 ≤ hi) ∧
  (∀ v, lo ≤ v → v ≤ hi → ∃ y neg, r.P0 ≤ y ∧ y ≤ r.P1 ∧ (rtbCore r neg y).1 = v)

def ImageOn (f : Bool → K → K) (a b lo hi : K) : Prop :=
  (∀ y neg, a ≤ y → y ≤ b → lo ≤ f neg y ∧ f neg y ≤ hi) ∧
  (∀ v, lo ≤ v → v ≤ hi → ∃ y neg, a ≤ y ∧ y ≤ b ∧ f neg y = v)

theorem ImageOn.affine (c d a b : K) (hc : 0 < c) : ImageOn (fun _ y => c * y + d) a b (c * a + d) (c * b + d) := by
  refine ⟨fun y _ h0 h1 => ⟨?_, ?_⟩, fun v h0 h1 => ⟨(v - d) / c, false, ?_, ?_, ?_⟩⟩
  · exact add_le_add_left (mul_le_mul_of_nonneg_left h0 hc.le) d
  · exact add_le_add_left (mul_le_mul_of_nonneg_left h1 hc.le) d
  · rw [le_div_iff₀ hc, mul_comm]; exact le_sub_iff_add_le.mpr h0
  · rw [div_le_iff₀ hc, mul_comm]; exact sub_le_iff_le_add.mpr h1
  · show c * ((v - d) / c) + d = v
    rw [mul_div_cancel₀ _ hc.ne', sub_add_cancel]

theorem ImageOn.affine_neg (c d a b : K) (hc : c < 0) : ImageOn (fun _ y => c * y + d) a b (c * b + d) (c * a + d) := by
  refine ⟨fun y _ h0 h1 => ⟨?_, ?_⟩, fun v h0 h1 => ⟨(v - d) / c, false, ?_, ?_, ?_⟩⟩
  · exact add_le_add_left (mul_le_mul_of_nonpos_left h1 hc.le) d
  · exact add_le_add_left (mul_le_mul_of_nonpos_left h0 hc.le) d
  · rw [le_div_iff_of_neg hc, mul_comm]; exact sub_le_iff_le_add.mpr h1
  · rw [div_le_iff_of_neg hc, mul_comm]; exact le_sub_iff_add_le.mpr h0
  · show c * ((v - d) / c) + d = v
    rw [mul_div_cancel₀ _ hc.ne, sub_add_cancel]

/-- The lower end has to be `0`: from an image `[m, V]` with `0 < m` the two signs give `[−V, −m] ∪ [m, V]`, with a gap.  Hence the
hypothesis "prior bound on the edge" of `C07.prime_prior_support_lower` / `_upper`. -/
theorem ImageOn.reflect {v : K → K} {a b V : K} (h : ImageOn (fun _ => v) a b 0 V) :
    ImageOn (fun neg y => (if neg then -1 else 1) * v y) a b (-V) V := by
  refine ⟨fun y neg h0 h1 => ?_, fun w h0 h1 => ?_⟩
  · obtain ⟨h2, h3⟩ := h.1 y neg h0 h1
    cases neg
    · simp only [Bool.false_eq_true, if_false, one_mul]; exact ⟨(neg_nonpos.mpr (h2.trans h3)).trans h2, h3⟩
    · simp only [if_true, neg_one_mul]; exact ⟨neg_le_neg h3, (neg_nonpos.mpr h2).trans (h2.trans h3)⟩
  · rcases le_total 0 w with hw | hw
    · obtain ⟨y, _, h2, h3, h4⟩ := h.2 w hw h1
      exact ⟨y, false, h2, h3, by simp only [Bool.false_eq_true, if_false, one_mul]; exact h4⟩
    · obtain ⟨y, _, h2, h3, h4⟩ := h.2 (-w) (neg_nonneg.mpr hw) (neg_le.mp h0)
      exact ⟨y, true, h2, h3, by simp only [if_true, neg_one_mul, h4, neg_neg]⟩

theorem isImage_iff (r : Rtb K) (lo hi : K) :
    IsImage r lo hi ↔ ImageOn (fun neg y => r.sgn neg * r.kept y) r.P0 r.P1 lo hi := by
  unfold IsImage ImageOn; simp only [rtbCore_eq]

theorem Rtb.kept_image (r : Rtb K) (hb : r.b0 < r.b1) {a b : K} :
    (0 < r.gain → ImageOn (fun _ => r.kept) a b (r.kept a) (r.kept b)) ∧
    (r.gain < 0 → ImageOn (fun _ => r.kept) a b (r.kept b) (r.kept a)) := by
  have hw : 0 < r.b1 - r.b0 := sub_pos.mpr hb
  have e : r.kept = fun y => r.gain / (r.b1 - r.b0) * y + (r.icpt - r.gain * (r.offset + r.b0) / (r.b1 - r.b0)) := by
    funext y; unfold Rtb.kept Rtb.unit; ring
  rw [e]
  exact ⟨fun hg => .affine _ _ a b (div_pos hg hw), fun hg => .affine_neg _ _ a b (div_neg_of_neg_of_pos hg hw)⟩

end NessaiVerif.Reparam
