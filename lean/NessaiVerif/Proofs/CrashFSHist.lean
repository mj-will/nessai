import NessaiVerif.Proofs.CrashFS
/-
C11 — the history theorems, for any protocol meeting the specifications of `Proofs/CrashFS.lean`. One induction over
histories carries an invariant together with the version a resume must return, which stays an allowed one. For the
standard sampler the invariant is `CkptGood` alone; the importance sampler adds the level discipline (`InsInv`).
-/
namespace NessaiVerif.CrashFS

theorem allowedFrom_cons (acc : List (Option Nat)) (e : Ev) (r : List Ev) :
    allowedFrom acc (e :: r) = allowedFrom (allowedFrom acc [e]) r := by
  cases e with
  | ckpt se v n len cp => cases cp <;> simp [allowedFrom]
  | train w len e cp => simp [allowedFrom]

/-- `Inv s prev` carries the version `prev` a resume must return. `acc` holds the versions allowed so far, and
`allowedFrom acc` goes on from them: `allowed` starts it from `[none]`, the induction needs it from any list. -/
theorem hist_induction (kind : Kind) (P : Protocol) (Inv : Sys → Option (Nat × Nat) → Prop)
    (hstep : ∀ s prev e acc, Inv s prev → prev.map Prod.fst ∈ acc →
      ∃ prev', Inv (step kind P s e) prev' ∧ prev'.map Prod.fst ∈ allowedFrom acc [e]) :
    ∀ (hist : List Ev) (s : Sys) (prev : Option (Nat × Nat)) (acc : List (Option Nat)),
      Inv s prev → prev.map Prod.fst ∈ acc →
      ∃ prev', Inv (hist.foldl (step kind P) s) prev' ∧ prev'.map Prod.fst ∈ allowedFrom acc hist := by
  intro hist
  induction hist with
  | nil => intro s prev acc hi hm; exact ⟨prev, hi, hm⟩
  | cons e r ih =>
    intro s prev acc hi hm
    obtain ⟨prev', hi', hm'⟩ := hstep s prev e acc hi hm
    rw [allowedFrom_cons]
    exact ih _ prev' _ hi' hm'

theorem step_ckpt_fs (kind : Kind) (P : Protocol) (s : Sys) (se : Bool) (v n len : Nat) (cp : Option CrashPt) :
    (step kind P s (.ckpt se v n len cp)).fs = after (P.dump se) .ckpt ⟨v, s.mem, len, .tornPickle⟩ s.fs cp := by
  cases cp <;> rfl

theorem step_train_fs (kind : Kind) (P : Protocol) (s : Sys) (w len : Nat) (e : Exc) (cp : Option CrashPt) :
    (step kind P s (.train w len e cp)).fs = after P.saveWeights (trainFam kind s.mem) ⟨w, 0, len, e⟩ s.fs cp := by
  cases cp <;> rfl

theorem step_train_ckpt {kind : Kind} {P : Protocol} {s : Sys} {w len : Nat} {e : Exc} {cp : Option CrashPt}
    (p : Path) (hp : p.fam = .ckpt) : (step kind P s (.train w len e cp)).fs p = s.fs p := by
  rw [step_train_fs]
  exact after_frame (by cases kind <;> simp [trainFam, hp]) ..

theorem ckpt_good {P : Protocol} (hd : DumpSpec P.dump) (kind : Kind) (s : Sys) {prev} (hg : CkptGood s.fs prev)
    {acc : List (Option Nat)} (hm : prev.map Prod.fst ∈ acc) (se : Bool) (v n len : Nat) (cp : Option CrashPt) :
    ∃ prev', CkptGood (step kind P s (.ckpt se v n len cp)).fs prev' ∧
      prev'.map Prod.fst ∈ allowedFrom acc [.ckpt se v n len cp] := by
  rw [step_ckpt_fs]
  cases cp with
  | none => exact ⟨_, hd.good_run se _ hg, by simp [allowedFrom]⟩
  | some cp =>
    rcases (hd.views se _ s.fs (some cp)).good hg with h | h
    · exact ⟨prev, h, by simp [allowedFrom, hm]⟩
    · exact ⟨_, h, by simp [allowedFrom]⟩

theorem allowed_train (acc : List (Option Nat)) (w len : Nat) (e : Exc) (cp : Option CrashPt) :
    allowedFrom acc [.train w len e cp] = acc := by
  simp [allowedFrom]

/-- the conclusion of every crash-safety theorem: the resume after `hist` does not raise
and returns an allowed version -/
def SafeAfter (kind : Kind) (P : Protocol) (hist : List Ev) : Prop :=
  ∃ prev, prev ∈ allowed hist ∧
    (resume kind P.cfg (replay kind P hist).top (replay kind P hist).fs).version = some prev

theorem hist_good (kind : Kind) (P : Protocol) (hd : DumpSpec P.dump) (hist : List Ev) :
    ∃ prev, CkptGood (replay kind P hist).fs prev ∧ prev.map Prod.fst ∈ allowed hist := by
  refine hist_induction kind P (fun s prev => CkptGood s.fs prev) ?_ hist initSys none [none] ⟨rfl, rfl, rfl, rfl⟩
    (by simp)
  intro s prev e acc hg hm
  cases e with
  | ckpt se v n len cp => exact ckpt_good hd kind s hg hm se v n len cp
  | train w len e cp =>
    exact ⟨prev, hg.congr step_train_ckpt, by rw [allowed_train]; exact hm⟩

theorem std_hist_safe (P : Protocol) (hd : DumpSpec P.dump) (hr : ResumeSpec P.cfg)
    (hok : ∀ fs n, stdWeightsResume P.cfg.weights fs n = none) (hist : List Ev) : SafeAfter .std P hist := by
  obtain ⟨prev, hg, hm⟩ := hist_good .std P hd hist
  exact ⟨_, hm, by rw [hr .std _ _ prev hg fun _ _ n _ _ => hok _ n, version_specOf]⟩

/-- every checkpoint on disk records at most `m` (levels; standard sampler: path code) -/
def PicklesLe (fs : FS) (m : Nat) : Prop :=
  ∀ p v n, (p = cb ∨ p = co) → fs p = .complete v n → n ≤ m

theorem PicklesLe.congr {fs fs' : FS} {m m' : Nat} (h : PicklesLe fs m) (he : ∀ p : Path, p.fam = .ckpt → fs' p = fs p)
    (hm : m ≤ m') : PicklesLe fs' m' := by
  rintro p v n (rfl | rfl) hv
  · exact Nat.le_trans (h cb v n (.inl rfl) (he cb rfl ▸ hv)) hm
  · exact Nat.le_trans (h co v n (.inr rfl) (he co rfl ▸ hv)) hm

theorem DumpView.picklesLe {d : Dump} {fs fs' : FS} (hv : DumpView d fs fs') {m : Nat} (h : PicklesLe fs m)
    (hn : d.n ≤ m) : PicklesLe fs' m := by
  intro p v n hp hc
  rcases hv.prov p hp with e | e | e | e <;> rw [e] at hc
  · exact h cb v n (.inl rfl) hc
  · exact h co v n (.inr rfl) hc
  · cases hc
  · cases hc; exact hn

/-- `.old` records no more levels than the checkpoint next to it -/
def OldLeBase (fs : FS) : Prop :=
  ∀ v n v' n', fs cb = .complete v n → fs co = .complete v' n' → n' ≤ n

theorem OldLeBase.congr {fs fs' : FS} (h : OldLeBase fs) (he : ∀ p : Path, p.fam = .ckpt → fs' p = fs p) :
    OldLeBase fs' := fun v n v' n' hb ho => h v n v' n' (he cb rfl ▸ hb) (he co rfl ▸ ho)

theorem DumpView.oldLeBase {d : Dump} {fs fs' : FS} (hv : DumpView d fs fs') (hp : PicklesLe fs d.n)
    (ho : OldLeBase fs) : OldLeBase fs' := by
  intro v1 n1 v2 n2 h1 h2
  rcases hv with ⟨e1 | e1, e2⟩ | ⟨_, e1 | e1, e2⟩ <;> rw [e1] at h1 <;> rw [e2] at h2
  · exact ho v1 n1 v2 n2 h1 h2
  · cases h1; exact hp co v2 n2 (.inr rfl) h2
  · cases h1
  · cases h1; exact hp cb v2 n2 (.inl rfl) h2

/-- the importance sampler's invariant: on disk a good checkpoint pair that records no more levels than the `mem` held
in memory, `.old` no more than the checkpoint, and those `mem` levels complete -/
structure InsInv (fs : FS) (mem top : Nat) (prev : Option (Nat × Nat)) : Prop where
  good : CkptGood fs prev
  ple : PicklesLe fs mem
  ole : OldLeBase fs
  lev : LevelsDone fs mem
  top : mem ≤ top

theorem memAfter_specOf_le {cfg : ResumeCfg} {fs : FS} {prev m} (hg : CkptGood fs prev) (hp : PicklesLe fs m) :
    memAfter (specOf .ins cfg fs prev) ≤ m := by
  match prev, hg.2.2 with
  | none, _ => exact Nat.zero_le _
  | some (v, n), .inl h => exact hp cb v n (.inl rfl) h
  | some (v, n), .inr h => exact hp co v n (.inr rfl) h.2

/-- after a restart the in-memory level count is what the loaded checkpoint records, and
no checkpoint on disk records more -/
theorem picklesLe_after {cfg : ResumeCfg} {fs : FS} {prev} (hg : CkptGood fs prev) (ho : OldLeBase fs) :
    PicklesLe fs (memAfter (specOf .ins cfg fs prev)) := by
  intro p v n hp hv
  match prev, hg.2.2 with
  | none, h => rcases hp with rfl | rfl <;> simp [h.1, h.2] at hv
  | some (v0, n0), .inl h =>
    rcases hp with rfl | rfl
    · rw [h] at hv; cases hv; exact Nat.le_refl _
    · exact ho v0 n0 v n h hv
  | some (v0, n0), .inr ⟨hab, h⟩ =>
    rcases hp with rfl | rfl
    · rw [hab] at hv; cases hv
    · rw [h] at hv; cases hv; exact Nat.le_refl _

theorem InsInv.resume_eq {P : Protocol} (hr : ResumeSpec P.cfg) {fs : FS} {m top : Nat} {prev} (hi : InsInv fs m top prev) :
    resume .ins P.cfg top fs = specOf .ins P.cfg fs prev :=
  hr .ins top fs prev hi.good fun p v n hp hv => ins_ok fs top m n (hi.ple p v n hp hv) hi.top hi.lev

theorem InsInv.restart {P : Protocol} (hr : ResumeSpec P.cfg) {fs : FS} {m top : Nat} {prev} (hi : InsInv fs m top prev) :
    InsInv fs (memAfter (resume .ins P.cfg top fs)) top prev := by
  rw [hi.resume_eq hr]
  have hle := memAfter_specOf_le (cfg := P.cfg) hi.good hi.ple
  exact ⟨hi.good, picklesLe_after hi.good hi.ole, hi.ole, fun i h => hi.lev i (Nat.lt_of_lt_of_le h hle),
    Nat.le_trans hle hi.top⟩

theorem insInv_step {P : Protocol} (hd : DumpSpec P.dump) (hs : SaveSpec P.saveWeights) (hr : ResumeSpec P.cfg)
    (s : Sys) (prev : Option (Nat × Nat)) (e : Ev) (acc : List (Option Nat)) (hi : InsInv s.fs s.mem s.top prev)
    (hm : prev.map Prod.fst ∈ acc) :
    ∃ prev', InsInv (step .ins P s e).fs (step .ins P s e).mem (step .ins P s e).top prev' ∧
      prev'.map Prod.fst ∈ allowedFrom acc [e] := by
  cases e with
  | ckpt se v n len cp =>
    obtain ⟨prev', hg, hm'⟩ := ckpt_good hd .ins s hi.good hm se v n len cp
    rw [step_ckpt_fs] at hg
    have hv := hd.views se ⟨v, s.mem, len, .tornPickle⟩ s.fs cp
    have h' : InsInv (after (P.dump se) .ckpt ⟨v, s.mem, len, .tornPickle⟩ s.fs cp) s.mem s.top prev' :=
      ⟨hg, hv.picklesLe hi.ple (Nat.le_refl _), hv.oldLeBase hi.ple hi.ole,
        fun i h => by rw [after_frame (by simp)]; exact hi.lev i h, hi.top⟩
    refine ⟨prev', ?_, hm'⟩
    cases cp with
    | none => exact h'
    | some cp => exact h'.restart hr
  | train w len e cp =>
    refine ⟨prev, ?_, by rw [allowed_train]; exact hm⟩
    have h' : InsInv (step .ins P s (.train w len e cp)).fs s.mem (max s.top (s.mem + 1)) prev :=
      ⟨hi.good.congr step_train_ckpt, hi.ple.congr step_train_ckpt (Nat.le_refl _), hi.ole.congr step_train_ckpt,
        fun i h => by rw [step_train_fs, after_frame (by simp [trainFam]; omega)]; exact hi.lev i h,
        by have := hi.top; omega⟩
    cases cp with
    | none =>
      -- the level just trained is complete as well
      refine ⟨h'.good, hi.ple.congr step_train_ckpt (Nat.le_succ _), h'.ole, fun i hi' => ?_, Nat.le_max_right ..⟩
      by_cases h : i = s.mem
      · exact h ▸ ⟨w, 0, hs.final (.level s.mem) ⟨w, 0, len, e⟩ s.fs⟩
      · exact h'.lev i (by have : i < s.mem + 1 := hi'; omega)
    | some cp => exact h'.restart hr

theorem ins_hist_safe (P : Protocol) (hd : DumpSpec P.dump) (hs : SaveSpec P.saveWeights)
    (hr : ResumeSpec P.cfg) (hist : List Ev) : SafeAfter .ins P hist := by
  obtain ⟨prev, hi, hm⟩ := hist_induction .ins P (fun s prev => InsInv s.fs s.mem s.top prev) (insInv_step hd hs hr)
    hist initSys none [none]
    ⟨⟨rfl, rfl, rfl, rfl⟩, fun _ _ _ _ h => (nomatch h), fun _ _ _ _ h => (nomatch h), fun _ hi => (nomatch hi),
      Nat.le_refl _⟩ (by simp)
  exact ⟨_, hm, (congrArg Outcome.version (hi.resume_eq hr)).trans (version_specOf ..)⟩

end NessaiVerif.CrashFS
