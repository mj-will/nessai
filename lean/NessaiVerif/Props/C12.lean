import NessaiVerif.Model.Accounts
import NessaiVerif.Model.AccountsTables
import NessaiVerif.Gen.Accounts
import NessaiVerif.Proofs.Accounts
/-
C12 — resuming restores the checkpointed state and keeps the accounts.
Property theorems only.  Part (a) is about the tables that harness/c12_tx.py regenerates from the nessai
sources on every run (Gen/Accounts.lean); part (b) about the accounts model (Model/Accounts.lean), for every
history of launches, runs, checkpoints, kills and down-times.
-/
namespace NessaiVerif.C12
open NessaiVerif.Accounts NessaiVerif.AccountsTables NessaiVerif.Gen.Accounts

/-! ## (a) what the pickles carry and what the resume path puts back -/

/-- The property's list, as (class, attribute): iteration, live and discarded points, evidence state, insertion
indices, history, proposal pool (samples, latent samples, indices, populated flag, counters), training counters,
reparameterisation state, sample counts, proposal weights, the per-proposal density table, the sub-objects that
hold them, the flow(s) and the user model. -/
def resultFields : List (String × String) := [
  -- standard sampler
  ("NestedSampler", "iteration"), ("NestedSampler", "live_points"), ("NestedSampler", "nested_samples"),
  ("NestedSampler", "state"), ("NestedSampler", "logLmin"), ("NestedSampler", "logLmax"), ("NestedSampler", "condition"),
  ("NestedSampler", "insertion_indices"), ("NestedSampler", "rolling_p"), ("NestedSampler", "history"),
  ("NestedSampler", "accepted"), ("NestedSampler", "rejected"), ("NestedSampler", "block_acceptance"),
  ("NestedSampler", "block_iteration"), ("NestedSampler", "mean_block_acceptance"), ("NestedSampler", "acceptance_history"),
  ("NestedSampler", "completed_training"), ("NestedSampler", "training_time"), ("NestedSampler", "sampling_time"),
  ("NestedSampler", "finalised"), ("NestedSampler", "uninformed_sampling"), ("NestedSampler", "_flow_proposal"),
  ("NestedSampler", "_uninformed_proposal"), ("NestedSampler", "proposal"), ("NestedSampler", "model"),
  ("NestedSampler", "_last_checkpoint"),
  ("_NSIntegralState", "logZ"), ("_NSIntegralState", "info"), ("_NSIntegralState", "logLs"), ("_NSIntegralState", "log_vols"),
  ("_NSIntegralState", "logw"), ("_NSIntegralState", "oldZ"), ("_NSIntegralState", "gradients"), ("_NSIntegralState", "nlive"),
  -- flow proposal: pool, counters, reparameterisation state, flow, model
  ("FlowProposal", "x"), ("FlowProposal", "samples"), ("FlowProposal", "indices"), ("FlowProposal", "populated"),
  ("FlowProposal", "populating"), ("FlowProposal", "populated_count"), ("FlowProposal", "population_acceptance"), ("FlowProposal", "population_time"),
  ("FlowProposal", "training_count"), ("FlowProposal", "r"), ("FlowProposal", "acceptance"),
  ("FlowProposal", "_checked_population"), ("FlowProposal", "_poolsize_scale"), ("FlowProposal", "_reparameterisation"),
  ("FlowProposal", "rescaling_set"), ("FlowProposal", "parameters"), ("FlowProposal", "prime_parameters"),
  ("FlowProposal", "fuzz"), ("FlowProposal", "flow"), ("FlowProposal", "model"), ("FlowProposal", "_flow_config"),
  ("RejectionProposal", "samples"), ("RejectionProposal", "indices"), ("RejectionProposal", "populated"),
  ("RejectionProposal", "population_acceptance"), ("RejectionProposal", "model"),
  ("AnalyticProposal", "samples"), ("AnalyticProposal", "indices"), ("AnalyticProposal", "populated"), ("AnalyticProposal", "model"),
  -- importance sampler
  ("ImportanceNestedSampler", "iteration"), ("ImportanceNestedSampler", "training_samples"),
  ("ImportanceNestedSampler", "iid_samples"), ("ImportanceNestedSampler", "history"), ("ImportanceNestedSampler", "sample_counts"),
  ("ImportanceNestedSampler", "log_likelihood_threshold"), ("ImportanceNestedSampler", "logX"),
  ("ImportanceNestedSampler", "proposal"), ("ImportanceNestedSampler", "model"), ("ImportanceNestedSampler", "training_time"),
  ("ImportanceNestedSampler", "draw_samples_time"), ("ImportanceNestedSampler", "add_and_update_samples_time"),
  ("ImportanceNestedSampler", "sampling_time"), ("ImportanceNestedSampler", "finalised"), ("ImportanceNestedSampler", "importance"),
  ("ImportanceNestedSampler", "criterion"), ("ImportanceNestedSampler", "_final_samples"),
  ("OrderedSamples", "samples"), ("OrderedSamples", "log_q"), ("OrderedSamples", "live_points_indices"),
  ("OrderedSamples", "nested_samples_indices"), ("OrderedSamples", "state"), ("OrderedSamples", "log_likelihood_threshold"),
  ("_INSIntegralState", "_logZ"), ("_INSIntegralState", "_n_ns"), ("_INSIntegralState", "_n_lp"),
  ("_INSIntegralState", "_weights"), ("_INSIntegralState", "_weights_ns"), ("_INSIntegralState", "_weights_lp"),
  ("ImportanceFlowProposal", "_weights"), ("ImportanceFlowProposal", "level_count"), ("ImportanceFlowProposal", "reparameterisation"),
  ("ImportanceFlowProposal", "clip"), ("ImportanceFlowProposal", "reset_flow"), ("ImportanceFlowProposal", "weighted_kl"),
  ("ImportanceFlowProposal", "flow"), ("ImportanceFlowProposal", "model"), ("ImportanceFlowProposal", "_flow_config"),
  ("ImportanceFlowModel", "weights_files"), ("ImportanceFlowModel", "models"), ("ImportanceFlowModel", "training_config"),
  ("ImportanceFlowModel", "output"), ("ImportanceFlowModel", "flow_config")]

/-- The classes whose instances a checkpoint pickle contains (or, for `FlowModel`, that the resume rebuilds).
`Model` is absent on purpose: it is never pickled with the sampler (`model` is in every exclusion set) — its
`__getstate__` (drop the pool) serves the multiprocessing workers. -/
def concrete : List String := [
  "NestedSampler", "ImportanceNestedSampler", "OrderedSamples", "FlowProposal", "RejectionProposal", "AnalyticProposal",
  "ImportanceFlowProposal", "ImportanceFlowModel", "FlowModel", "_NSIntegralState", "_INSIntegralState"]

/-- Carried attributes of the property's list that the resume path itself assigns (so "the pickle carries it" does not
by itself mean "the resumed sampler has the pickled value"); each with the reason the assignment is harmless.  The
values of all of them are compared by the round-trip tie of harness/c12.py. -/
def overwrittenOnResume : List (String × String) := [
  -- tuple parts: `__setstate__` re-attaches the pickled objects themselves
  ("ImportanceNestedSampler", "training_samples"), ("ImportanceNestedSampler", "iid_samples"),
  ("ImportanceNestedSampler", "proposal"), ("ImportanceFlowProposal", "flow"),
  -- `NestedSampler.initialise`: `finalised = False` only when the stopping condition is not met
  ("NestedSampler", "finalised"),
  -- `NestedSampler.update_state` (pre-loop call): block counters reset only at multiples of nlive in the uninformed phase
  ("NestedSampler", "block_acceptance"), ("NestedSampler", "block_iteration"),
  -- `FlowProposal.initialise(resumed=True)` clears `populated`, `NestedSampler.check_resume` restores it (`pool_flag_restored`)
  ("FlowProposal", "populated"),
  -- `FlowProposal.initialise`: `fuzz` recomputed only when the proposal is not initialised (not on resume)
  ("FlowProposal", "fuzz"),
  -- `update_state` marks the population as checked (it is already True in a checkpoint written by update_state)
  ("FlowProposal", "_checked_population"),
  -- `ImportanceFlowModel.update_weights_path`: the same `level_i/model.pt` paths rebuilt under the output directory
  ("ImportanceFlowModel", "weights_files"),
  -- site `FlowModel.setup_from_input_dict` (base class): runs when a FlowModel is constructed, i.e. on the standard
  -- sampler's resume, not on the importance sampler's (the lineage over-approximates)
  ("ImportanceFlowModel", "training_config")]

/-- TABLE FACT (about the tables generated from the current sources; what pickle itself does is an assumption observed
by the round-trip tie): every attribute in the property's list exists in its class and
* if the `__getstate__` in force drops it (exclusion set, `del`, `= None/False`), the resume path or a first-use site
  assigns it again — any assignment counts, the value is checked by the tie;
* if the pickle carries it, NO site of the resume path assigns it, except the attributes listed in
  `overwrittenOnResume`.
In-place mutations by callees (e.g. `update_state` appending to the history — the known finding) are not table sites. -/
theorem result_fields_survive : resultFields.all (survives tables sites overwrittenOnResume) = true := by decide +kernel

example : ("OrderedSamples", "log_q") ∈ resultFields ∧ dropped tables "OrderedSamples" "log_q" = true
    ∧ dropped tables "NestedSampler" "history" = false ∧ touched tables sites "NestedSampler" "history" = false
    ∧ dropped tables "FlowProposal" "flow" = true := by decide +kernel

/-- `result_fields_survive` is not vacuous: without the resume sites the dropped density table, the flow and the model
would not survive; an attribute that does not exist is rejected; and without its exemption a carried attribute that the
resume path overwrites (`populated`) is rejected. -/
theorem result_fields_survive_fails_without_resume_sites :
    survives tables [] overwrittenOnResume ("OrderedSamples", "log_q") = false
    ∧ survives tables [] overwrittenOnResume ("FlowProposal", "flow") = false
    ∧ survives tables [] overwrittenOnResume ("NestedSampler", "model") = false
    ∧ survives tables sites overwrittenOnResume ("NestedSampler", "no_such_field") = false
    ∧ survives tables sites [] ("FlowProposal", "populated") = false := by
  decide +kernel

/-- The exemption list is exact: each entry is in the property's list, is carried by the pickle and is assigned by
the resume path (no stale exemption hides a change). -/
theorem overwritten_exemptions_exact :
    overwrittenOnResume.all (fun cf => resultFields.contains cf && !dropped tables cf.1 cf.2 && touched tables sites cf.1 cf.2) = true := by
  decide +kernel

example : overwrittenOnResume.length = 12 := by decide

/-- Everything any `__getstate__` of the chain drops (exclusion sets, `del state[...]`, `state[k] = None/False` on an
attribute) has a site on the resume path (or a first-use site) that assigns it again. -/
theorem excluded_are_rederived :
    concrete.all (fun c => (droppedOf tables c).all (fun f => rederived tables sites c f)) = true := by decide +kernel

example : droppedOf tables "FlowProposal" = ["model", "_flow_config", "flow", "initialised", "_draw_func", "_populate_dist"]
    ∧ droppedOf tables "NestedSampler" = ["model", "proposal", "checkpoint_callback"] := by decide +kernel

/-- Objects pickled next to the state dictionary (`return state, self.proposal, …`) are put back by `__setstate__`
under the same names in the same order (importance sampler: proposal, training and i.i.d. sample stores; importance
proposal: the flow model). -/
theorem tuple_parts_reattached : tables.all tupleRoundTrip = true := by decide +kernel

example : (tables.filter (fun t => t.tupleParts ≠ [])).map (·.name) = ["ImportanceNestedSampler", "ImportanceFlowProposal"] := by
  decide +kernel

/-- No class of the package outside the modelled chain customises pickling. -/
theorem only_chain_classes_customise_pickling :
    customPicklers.all (fun c => (tables.map (·.name)).contains c) = true := by decide +kernel

example : customPicklers.length = 9 := by decide +kernel

/-- The likelihood accounts cross the pickle exactly as `Model/Accounts.lean` assumes: both `__getstate__`s write the
model's counters under `_previous_…`, and the resume ADDS them (`+=`) to the model it is handed — there is no other
assignment to the model on the resume path. -/
theorem counters_carried :
    modelUpdates = [
      ("BaseNestedSampler.resume_from_pickled_sampler", "model.likelihood_evaluations", "Add",
        "sampler._previous_likelihood_evaluations"),
      ("BaseNestedSampler.resume_from_pickled_sampler", "model.likelihood_evaluation_time", "Add",
        "datetime.timedelta(seconds=sampler._previous_likelihood_evaluation_time)")]
    ∧ (["BaseNestedSampler", "ImportanceNestedSampler"].all fun c =>
        match lookup tables c with
        | some t =>
          t.overrides.any (fun o => o.1 == "_previous_likelihood_evaluations" && o.2.2 == "d['model'].likelihood_evaluations")
          && t.overrides.any (fun o => o.1 == "_previous_likelihood_evaluation_time"
                && o.2.2 == "d['model'].likelihood_evaluation_time.total_seconds()")
        | none => false) = true := by
  decide +kernel

example : modelUpdates.length = 2 := congrArg List.length counters_carried.1

/-- Both samplers re-arm `sampling_start_time` when `nested_sampling_loop` is entered — the hypothesis `resetStart` of
`sampling_time_cumulative` holds for the standard and for the importance sampler. -/
theorem loops_rearm_start :
    loopResetsStart.lookup "NestedSampler" = some true ∧ loopResetsStart.lookup "ImportanceNestedSampler" = some true := by
  decide +kernel

example : loopResetsStart.length = 2 := by decide +kernel

-- Whether `resume_from_pickled_sampler` itself re-arms `sampling_start_time` is recorded in the generated
-- `resumeRearmsStart` (true since commit 26ec473).  The driver only reports it (`acc rearm`); harness/c12.py reads it there
-- and hands it back as the `rearmOnResume` argument of `acc run`.
-- `sampling_time_cumulative` needs `ckptInLoop` either way, see `sampling_time_cumulative_fails_without_checkpoint_in_loop`.

/-- The site table agrees with `loops_rearm_start` for the standard sampler: it lists the assignment to
`sampling_start_time` in `NestedSampler.nested_sampling_loop`. -/
example : (sites.any fun s => s.attr == "sampling_start_time" && s.site == "NestedSampler.nested_sampling_loop") = true := by
  decide +kernel

/-- The calls that make up the resume path are present: file → sampler → proposals → flow(s) and weights, the
proposal pointer and pool flag (`initialise`, `check_resume`), the density tables. -/
theorem resume_path_connected :
    ([("FlowSampler._resume_from_file", "SamplerClass.resume"),
      ("FlowSampler._resume_from_data", "SamplerClass.resume_from_pickled_sampler"),
      ("BaseNestedSampler.resume", "cls.resume_from_pickled_sampler"),
      ("NestedSampler.resume_from_pickled_sampler", "super(NestedSampler, cls).resume_from_pickled_sampler"),
      ("NestedSampler.resume_from_pickled_sampler", "obj._uninformed_proposal.resume"),
      ("NestedSampler.resume_from_pickled_sampler", "obj._flow_proposal.resume"),
      ("FlowSampler.run_standard_sampler", "self.ns.initialise"),
      ("FlowSampler.run_standard_sampler", "self.ns.nested_sampling_loop"),
      ("NestedSampler.nested_sampling_loop", "self.check_resume"),
      ("FlowProposal.resume", "super().resume"), ("FlowProposal.resume", "self.initialise"),
      ("FlowProposal.resume", "self.flow.reload_weights"), ("FlowProposal.initialise", "self.flow.initialise"),
      ("ImportanceNestedSampler.resume_from_pickled_sampler", "super(ImportanceNestedSampler, cls).resume_from_pickled_sampler"),
      ("ImportanceNestedSampler.resume_from_pickled_sampler", "obj.proposal.resume"),
      ("ImportanceNestedSampler.resume_from_pickled_sampler", "obj.proposal.compute_meta_proposal_samples"),
      ("ImportanceFlowProposal.resume", "super().resume"), ("ImportanceFlowProposal.resume", "self.flow.resume"),
      ("ImportanceFlowModel.resume", "self.update_weights_path"), ("ImportanceFlowModel.resume", "self.load_all_weights"),
      ("ImportanceFlowModel.load_all_weights", "new_flow.load_state_dict"),
      ("FlowSampler.run_importance_nested_sampler", "self.ns.nested_sampling_loop")].all
      fun c => calls.contains c) = true := by decide +kernel

example : calls.length > 20 := by decide +kernel

/-- The pool flag, which `FlowProposal.initialise` clears during the resume, is put back by
`NestedSampler.check_resume` from the `resume_populated` flag written by `__getstate__`. -/
theorem pool_flag_restored :
    (sites.any fun s => s.owner == "FlowProposal" && s.attr == "populated" && s.site == "NestedSampler.check_resume") = true
    ∧ (match lookup tables "FlowProposal" with
       | some t => t.overrides.any (fun o => o.1 == "resume_populated" && o.2.2 == "True")
       | none => false) = true := by decide +kernel

example : (sites.filter fun s => s.attr == "populated").length = 2 := by decide +kernel

/-- No local variable of a resume-path function is read where it is not definitely assigned (conservative flow
analysis of the translator: if/else joins intersect, loop and try bodies contribute nothing) — in particular the mask
handed to the rebuilt flow is bound whatever the type of the saved mask. -/
theorem resume_locals_bound : maybeUnbound = [] := by decide +kernel

-- the analysis did look at `FlowProposal.resume`, where the saved mask goes to the rebuilt flow: `calls` and `maybeUnbound`
-- are filled by the same pass of harness/c12_tx.py over the functions of the resume path
example : (calls.filter fun c => c.1 == "FlowProposal.resume").length ≥ 3 := by decide +kernel

/-- The state the C01 model (live-set evolution) and the C13 model (interrupts) speak about, plus the entries of the
evidence state (C02), as attributes of the standard sampler. -/
def runStateFields : List (String × String) := [
  ("NestedSampler", "iteration"), ("NestedSampler", "live_points"), ("NestedSampler", "nested_samples"),
  ("NestedSampler", "insertion_indices"), ("NestedSampler", "logLmin"), ("NestedSampler", "logLmax"),
  ("NestedSampler", "accepted"), ("NestedSampler", "rejected"), ("NestedSampler", "acceptance_history"),
  ("NestedSampler", "state"), ("NestedSampler", "condition"),
  ("_NSIntegralState", "logLs"), ("_NSIntegralState", "log_vols"), ("_NSIntegralState", "logZ"), ("_NSIntegralState", "oldZ"),
  ("_NSIntegralState", "logw"), ("_NSIntegralState", "info"), ("_NSIntegralState", "gradients"), ("_NSIntegralState", "nlive")]

/-- TABLE FACT + ASSUMPTION.  Table fact (decided over the tables generated from the current sources): none of the
attributes of the C01/C13/C02 run state is dropped by the `__getstate__` in force, none is assigned by any site of the
resume path (including the pre-loop `update_state`).  Assumption: pickling is faithful — the state is modelled
as an attribute ↦ value list, `pickleState` keeps the non-dropped entries unchanged and `resumeState` lets only the
resume sites overwrite; under that model `resume ∘ checkpoint` returns each such attribute unchanged, for every state.
That pickle/torch really reproduce the values is observed by the round-trip and chain ties, not proved. -/
theorem run_state_survives_checkpoint_resume {α : Type} (cf : String × String) (h : cf ∈ runStateFields)
    (s fresh : List (String × α)) :
    (resumeState tables sites cf.1 fresh (pickleState tables cf.1 s)).lookup cf.2 = s.lookup cf.2 := by
  have hall : runStateFields.all (fun cf => !dropped tables cf.1 cf.2 && !touched tables sites cf.1 cf.2) = true := by
    decide +kernel
  have := List.all_eq_true.mp hall cf h
  simp only [Bool.and_eq_true, Bool.not_eq_true'] at this
  exact resume_pickle_lookup tables sites cf.1 cf.2 s fresh this.1 this.2

example : (resumeState tables sites "NestedSampler" [("iteration", 0), ("proposal", 9)]
    (pickleState tables "NestedSampler" [("iteration", 35), ("model", 1), ("proposal", 2)])).lookup "iteration" = some 35 :=
  run_state_survives_checkpoint_resume ("NestedSampler", "iteration") (by decide) _ _

example (s fresh : List (String × Nat)) :
    (resumeState tables sites "NestedSampler" fresh (pickleState tables "NestedSampler" s)).lookup "iteration" = s.lookup "iteration" :=
  run_state_survives_checkpoint_resume ("NestedSampler", "iteration") (by decide) s fresh

/-- The two hypotheses behind `run_state_survives_checkpoint_resume` are needed: a dropped attribute (`model`) does not
come back from the pickle, and an attribute the resume path assigns (`proposal`) takes the derived value. -/
theorem run_state_survives_fails_without_pickled_untouched :
    (resumeState tables sites "NestedSampler" ([] : List (String × Nat))
      (pickleState tables "NestedSampler" [("iteration", 35), ("model", 1)])).lookup "model" = none
    ∧ (resumeState tables sites "NestedSampler" [("proposal", 9)]
      (pickleState tables "NestedSampler" [("iteration", 35), ("proposal", 2)])).lookup "proposal" = some 9 := by
  decide +kernel

/-! ## (b) the accounts, for every history -/

/-- both loops re-arm the start, the resume does not (the sources before commit 26ec473; since then the resume re-arms it
too, generated `resumeRearmsStart`), fresh model -/
def codeCfg : Cfg := ⟨true, false, true⟩

/-- Likelihood evaluations and likelihood time are cumulative: after ANY history, if a process is alive and every
resume got a fresh model, the model's counters equal the sums over the retained `run` steps — those covered by the last
completed checkpoint of the lineage plus those since the last resume/checkpoint — and the checkpoint file carries exactly
the committed part. -/
theorem evals_cumulative (c : Cfg) (hf : c.freshModel = true) (h : List Op) :
    let s := exec c {} h
    let l := logOf {} h
    (s.alive = true → s.mEvals = sumE l.retained ∧ s.mLtime = sumL l.retained)
    ∧ (∀ sv, s.file = some sv → sv.evals = sumE l.committed ∧ sv.ltime = sumL l.committed) := by
  have hi := Inv.exec hf h
  simp only [Log.retained, sumE_append, sumL_append]
  exact ⟨fun _ => ⟨hi.evals, hi.ltime⟩, hi.file⟩

def hist1 : List Op := [.resume, .run 100 0 3, .enterLoop, .run 40 7 3, .checkpoint, .run 50 4 2, .kill, .down 9,
  .resume, .enterLoop, .run 20 5 1]

example : (exec codeCfg {} hist1).mEvals = 160 ∧ (logOf {} hist1).retained = [(100, 0, 3), (40, 7, 3), (20, 5, 1)] := by decide

example : (exec codeCfg {} hist1).mEvals = sumE (logOf {} hist1).retained :=
  ((evals_cumulative codeCfg rfl hist1).1 (by decide)).1

/-- The hypothesis "fresh model" is needed: handing the resume a model object that already carries the dead
process's counter counts those evaluations twice (`+=` on a non-zero counter). -/
theorem evals_cumulative_fails_without_fresh_model :
    (exec ⟨true, false, false⟩ {} [.resume, .run 5 1 1, .checkpoint, .kill, .resume]).mEvals = 10
    ∧ sumE (logOf {} [.resume, .run 5 1 1, .checkpoint, .kill, .resume]).retained = 5 := by decide

/-- Never double counted: the retained steps are a sub-list (same order, each at most once) of the steps live
processes actually performed; in particular the reported totals never exceed what was performed. -/
theorem accounts_never_double_counted (h : List Op) :
    ((logOf {} h).retained).Sublist (performed false false h) :=
  retained_sublist h {}

example : (performed false false [.resume, .run 1 1 1, .kill, .run 9 9 9, .resume, .enterLoop, .run 2 2 2]) = [(1, 0, 1), (2, 2, 2)] := by
  decide

example : ((logOf {} hist1).retained).Sublist (performed false false hist1) := accounts_never_double_counted hist1

/-- Never reset: in a well-formed history without a kill nothing is discarded — the totals are the sums over every
step performed. -/
theorem accounts_never_reset (c : Cfg) (hf : c.freshModel = true) (h : List Op)
    (hw : wellFormed false h = true) (hk : ∀ op ∈ h, op ≠ Op.kill) (ha : (exec c {} h).alive = true) :
    (exec c {} h).mEvals = sumE (performed false false h) ∧ (exec c {} h).mLtime = sumL (performed false false h) := by
  have h2 : (logOf {} h).retained = performed false false h := retained_all_without_kill h {} (fun _ => rfl) hw hk
  exact h2 ▸ (evals_cumulative c hf h).1 ha

def hist2 : List Op := [.resume, .run 3 0 1, .enterLoop, .run 3 1 1, .checkpoint, .run 4 1 1, .checkpoint]

example : (exec codeCfg {} hist2).mEvals = sumE (performed false false hist2) :=
  (accounts_never_reset codeCfg rfl hist2 (by decide) (by decide) (by decide)).1

/-- Losses come from kills only and are bounded by what was done after the last checkpoint: the hypothesis "no kill"
of `accounts_never_reset` is needed. -/
theorem accounts_never_reset_fails_without_no_kill :
    (exec codeCfg {} [.resume, .run 3 1 1, .checkpoint, .run 4 1 1, .kill, .resume]).mEvals = 3
    ∧ sumE (performed false false [.resume, .run 3 1 1, .checkpoint, .run 4 1 1, .kill, .resume]) = 7 := by decide

/-- Sampling time is cumulative when the loop re-arms its start (both samplers, `loops_rearm_start`) and every checkpoint
is written from inside the sampling loop (`ckptInLoop`: periodic, on-training and final checkpoints are): after ANY such
history the current sampling time of a sampler inside the loop is the sum of the in-loop ticks of the retained steps
(down-time, discarded segments and time before the loop entry excluded); `sampling_time` itself and the file carry the
committed part. -/
theorem sampling_time_cumulative (c : Cfg) (hf : c.freshModel = true) (hr : c.resetStart = true) (h : List Op)
    (hk : ckptInLoop false false h = true) :
    let s := exec c {} h
    let l := logOf {} h
    (s.alive = true → s.stime = sumT l.committed ∧ (s.inLoop = true → s.current = sumT l.retained))
    ∧ (∀ sv, s.file = some sv → sv.stime = sumT l.committed) := by
  have hi := InvT.exec hf hr h hk
  refine ⟨fun ha => ⟨hi.stime, fun hil => ?_⟩, hi.file⟩
  simp only [St.current, Log.retained, sumT_append, hi.stime, (hi.inLoop ha hil).2]

def hist3 : List Op := [.resume, .enterLoop, .run 1 5 0, .checkpoint, .run 1 3 0, .checkpoint, .kill, .down 10, .resume,
  .enterLoop, .run 1 2 0, .checkpoint]

example : (exec codeCfg {} hist3).stime = 10 := by decide

example : (exec codeCfg {} hist3).stime = sumT (logOf {} hist3).committed :=
  ((sampling_time_cumulative codeCfg rfl rfl hist3 (by decide)).1 (by decide)).1

/-- The hypothesis `resetStart` is needed (a fact about the model; both samplers meet it, see `loops_rearm_start`): a loop
that does not re-arm `sampling_start_time` leaves the resumed sampler with the pickled start, so the next checkpoint adds
the last segment again plus the whole down-time (here 23 instead of 10). -/
theorem sampling_time_cumulative_fails_without_reset :
    (exec ⟨false, false, true⟩ {} hist3).stime = 23 ∧ sumT (logOf {} hist3).retained = 10 := by decide

def hist4 : List Op := [.resume, .enterLoop, .run 1 5 0, .checkpoint, .kill, .down 10, .resume, .checkpoint, .enterLoop,
  .run 1 2 0, .checkpoint]

/-- The hypothesis `ckptInLoop` is needed (nothing in the sources enforces it).  When the resume keeps the pickled start
(`codeCfg`), a checkpoint written between the resume and the loop entry (the signal handler
`FlowSampler.safe_exit → ns.checkpoint()`) finds the pickled start, so it adds the segment before the resumed checkpoint
again plus the whole down-time (here 22 instead of 7) — finding
`BaseNestedSampler.checkpoint:between-resume-and-loop-entry:down-time-counted`, reproduced on the real code by the
harness and repaired in commit 26ec473: with a resume that re-arms the start (`rearmOnResume`) the same history is
accounted correctly.  It is needed with a re-arming resume as well: a checkpoint written before the loop entry adds the
ticks since the resume, which are not sampling time (`exec ⟨true, true, true⟩ {} [.resume, .run 1 5 0, .checkpoint]`
has `stime = 5`, the log says 0). -/
theorem sampling_time_cumulative_fails_without_checkpoint_in_loop :
    ckptInLoop false false hist4 = false
    ∧ (exec codeCfg {} hist4).stime = 22 ∧ sumT (logOf {} hist4).retained = 7
    ∧ (exec ⟨true, true, true⟩ {} hist4).stime = 7 := by decide

/-- PARTIAL (gap: no upper bound — with a stale start or a checkpoint before the loop entry the time may be over-counted,
as in the two counter-examples above): whatever the configuration and wherever the checkpoints are written, sampling time
is never lost or reset; it is at least the retained in-loop ticks. -/
theorem sampling_time_stale_start_partial (c : Cfg) (hf : c.freshModel = true) (h : List Op) :
    let s := exec c {} h
    let l := logOf {} h
    s.alive = true → sumT l.retained ≤ s.current ∧ sumT l.committed ≤ s.stime := by
  intro s l ha
  have hi : InvTle s l := InvTle.exec hf h
  have h1 := hi.stime
  have h2 := hi.live ha
  refine ⟨?_, h1⟩
  simp only [St.current, Log.retained, sumT_append]
  omega

example : (exec ⟨false, false, true⟩ {} [.resume, .enterLoop, .run 1 5 0, .checkpoint, .kill, .down 4, .resume, .enterLoop,
    .run 1 2 0]).current = 16 := by decide

example : sumT (logOf {} hist4).retained ≤ (exec codeCfg {} hist4).current :=
  (sampling_time_stale_start_partial codeCfg rfl hist4 (by decide)).1

/-- A sampler inside the loop that has just checkpointed, with its accounts on file. -/
def Settled (s : St) : Prop :=
  s.alive = true ∧ s.inLoop = true ∧ s.start = s.clock
    ∧ ∃ sv, s.file = some sv ∧ sv.evals = s.mEvals ∧ sv.ltime = s.mLtime ∧ sv.stime = s.stime

/-- kill, wait, resume, enter the loop, checkpoint — without running -/
def cycles (ds : List Nat) : List Op := ds.flatMap fun d => [.kill, .down d, .resume, .enterLoop, .checkpoint]

/-- Resuming is idempotent on the accounts: any number of kill → down-time → resume → loop entry → checkpoint cycles
without sampling in between leaves evaluations, likelihood time, sampling time and current sampling time unchanged
(fresh model, start re-armed at the loop entry, checkpoint written inside the loop). -/
theorem resume_idempotent_accounts (c : Cfg) (hf : c.freshModel = true) (hr : c.resetStart = true) (ds : List Nat) :
    ∀ s : St, Settled s →
      let s' := exec c s (cycles ds)
      Settled s' ∧ s'.mEvals = s.mEvals ∧ s'.mLtime = s.mLtime ∧ s'.stime = s.stime ∧ s'.current = s.current := by
  induction ds with
  | nil => intro s hs; simpa [cycles, exec] using hs
  | cons d ds ih =>
    intro s hs
    obtain ⟨ha, hil, hst, sv, hfile, he, hl, ht⟩ := hs
    -- one cycle: the resume re-seeds the fresh model from the file, the loop entry re-arms the start
    have hstep : let s₁ := exec c s [.kill, .down d, .resume, .enterLoop, .checkpoint]
        Settled s₁ ∧ s₁.mEvals = s.mEvals ∧ s₁.mLtime = s.mLtime ∧ s₁.stime = s.stime ∧ s₁.current = s.current := by
      simp [exec, step, hfile, hf, hr, Settled, St.current, he, hl, ht, hst]
    obtain ⟨hS, h1, h2, h3, h4⟩ := hstep
    obtain ⟨g0, g1, g2, g3, g4⟩ := ih _ hS
    simp only [cycles, List.flatMap_cons, exec, List.foldl_append] at g0 g1 g2 g3 g4 ⊢
    exact ⟨g0, g1.trans h1, g2.trans h2, g3.trans h3, g4.trans h4⟩

/-- the state right after the first in-loop checkpoint of a run is settled (used to apply `resume_idempotent_accounts`) -/
theorem settled_after_first_checkpoint : Settled (exec codeCfg {} [.resume, .enterLoop, .run 10 4 2, .checkpoint]) := by
  refine ⟨by decide, by decide, by decide, ⟨10, 2, 4, 0⟩, by decide, by decide, by decide, by decide⟩

example : (exec codeCfg (exec codeCfg {} [.resume, .enterLoop, .run 10 4 2, .checkpoint]) (cycles [4, 0, 7])).stime
    = (exec codeCfg {} [.resume, .enterLoop, .run 10 4 2, .checkpoint]).stime :=
  (resume_idempotent_accounts codeCfg rfl rfl [4, 0, 7] _ settled_after_first_checkpoint).2.2.2.1

/-- The hypotheses of `resume_idempotent_accounts` are needed: with a loop that does not re-arm the start one empty cycle
already changes the sampling time (4 → 12 with 4 ticks of down-time); with a reused model object the evaluations double;
and a cycle whose checkpoint is written BEFORE the loop entry (signal handler) adds the down-time as well (4 → 12).  The
last two conjuncts are the control: under the hypotheses (`codeCfg`) three cycles after the same start leave 4 and 10. -/
theorem resume_idempotent_accounts_fails_without :
    (exec ⟨false, false, true⟩ {} ([.resume, .enterLoop, .run 10 4 2, .checkpoint] ++ cycles [4])).stime = 12
    ∧ (exec ⟨true, false, false⟩ {} ([.resume, .enterLoop, .run 10 4 2, .checkpoint] ++ cycles [4])).mEvals = 20
    ∧ (exec codeCfg {} [.resume, .enterLoop, .run 10 4 2, .checkpoint, .kill, .down 4, .resume, .checkpoint, .enterLoop]).stime = 12
    ∧ (exec codeCfg {} ([.resume, .enterLoop, .run 10 4 2, .checkpoint] ++ cycles [4, 0, 7])).stime = 4
    ∧ (exec codeCfg {} ([.resume, .enterLoop, .run 10 4 2, .checkpoint] ++ cycles [4, 0, 7])).mEvals = 10 := by decide

end NessaiVerif.C12
