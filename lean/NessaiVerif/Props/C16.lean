import NessaiVerif.Proofs.ResampleLog
import NessaiVerif.Gen.ResampleTx
/-
C16 — posterior resampling follows the posterior weights.

Weights are in the linear domain (`w = exp(log_w)`, `-inf ↦ 0`); `u` are the uniform
draws handed to the code by the random number generator.  Everything generic is proved
for an arbitrary linearly ordered field `K` (so for ℚ, which the driver executes, and ℝ).
The first theorems prove, for whole vectors of extended log-values over ℝ (entries `-inf`,
`np.max`, `logsumexp`, draws `u = 0`, constant shifts), that the log-space programs of the code
(written out in Proofs/ResampleLog.lean, with the IEEE conventions for `-inf` made explicit)
compute exactly what the linear-domain model computes; float rounding is outside all theorems.
-/
set_option linter.unusedSectionVars false

namespace NessaiVerif.C16
open NessaiVerif.Np NessaiVerif.Resample

/-- One acceptance test of the code over extended log-values: `log_w[i] - max > log(u)` holds iff
`u < exp(log_w[i]) / exp(max)`, for a weight that may be `-inf` (never accepted), a draw that may be 0
(accepted iff the weight is non-zero) and a maximum that may be `-inf` (so is the weight then: NaN difference, never
accepted; the linear side divides by zero, which is 0 in the model). -/
theorem log_space_accept_iff (M a : LogVal) (u : ℝ) (hu : 0 ≤ u) :
    keepLog M a (logE u) ↔ u < expE a / expE M := by
  rw [← keep_iff_keepLog M a u hu, keep_iff]

example : ¬ keepLog (some 0) none (logE 0) := by
  rw [log_space_accept_iff (some 0) none 0 le_rfl]
  simp [expE]

example : keepLog (some 1) (some 0) (logE 0) :=
  (log_space_accept_iff (some 1) (some 0) 0 le_rfl).mpr (by simp only [expE]; positivity)

/-- One entry of `np.exp(log_w - logsumexp(log_w))` over extended log-values: `exp(a - log S) = exp(a) / S`,
also for `a = -inf` (probability 0). -/
theorem log_space_probability (a : LogVal) (S : ℝ) (hS : 0 < S) :
    expE (a.map (fun x => x - Real.log S)) = expE a / S := by
  rw [expE_sub, Real.exp_log hS]

example : expE ((none : LogVal).map (fun x => x - Real.log 3)) = expE none / 3 :=
  log_space_probability none 3 (by norm_num)

/-- Rejection sampling as written in the code — `np.where(log_w - np.max(log_w) > np.log(u))[0]` on a
vector of log-weights that may contain `-inf`, with draws `u ≥ 0` that may be 0 — returns exactly the
indices of the linear-domain model run on the weights `exp(log_w)` (`exp(-inf) = 0`). -/
theorem rejection_log_space (lw : List LogVal) (us : List ℝ) (hu : ∀ u ∈ us, 0 ≤ u) :
    rejLog lw us = rejectionIndices (lw.map expE) us := by
  unfold rejLog rejectionIndices
  rw [lmax_map_expE]
  exact rejLogGo_eq (maxE lw) 0 lw us hu

example : rejLog [some 0, none, some (-1)] [1 / 2, 0, 0] =
    rejectionIndices ([some 0, none, some (-1)].map expE) [1 / 2, 0, 0] :=
  rejection_log_space _ _ (by intro u hu; simp at hu; rcases hu with rfl | rfl <;> norm_num)

/-- The guard `0 ≤ u` is needed: `np.log` of a negative number is NaN (never accepted), while the
linear test would accept it against a positive weight.  Here `logE (-1) = some (log 1) = some 0`. -/
theorem rejection_log_space_fails_without :
    rejLog [some 0] [-1] ≠ rejectionIndices ([some (0 : ℝ)].map expE) [-1] := by
  have hlog : ¬ keepLog (some 0) (some 0) (logE (-1)) := by
    simp [keepLog, logE, gtE]
  have hlin : keep (lmax [expE (some 0)]) (expE (some 0)) (-1) = true := by
    rw [keep_iff]
    simp [expE, lmax_cons]
  have h1 : rejLog [some 0] [-1] = [] := by
    simp only [rejLog, maxE, max2E, List.map_cons, List.map_nil, rejLogGo, if_neg hlog]
  have h2 : rejectionIndices ([some (0 : ℝ)].map expE) [-1] = [0] := by
    simp only [rejectionIndices, List.map_cons, List.map_nil, rejGo, hlin, if_true]
  rw [h1, h2]
  exact (List.cons_ne_nil 0 []).symm

/-- The `p=` argument handed to `np.random.choice`, `np.exp(log_w - logsumexp(log_w))`, is the model's
`w / Σw` for the weights `exp(log_w)` (entries `-inf` give probability 0), whenever some weight is non-zero.  `hS`, which
every theorem about `probsLog` and `essLog` carries, also keeps them off the one input where `lseE` does not mirror the code:
`Real.log 0 = 0`, so for an all-`-inf` vector `lseE` is 0, not `-inf`. -/
theorem probabilities_log_space (lw : List LogVal) (hS : 0 < lsum (lw.map expE)) :
    probsLog lw = probs (lw.map expE) := by
  simp only [probsLog, subE, lseE, probs, List.map_map]
  exact List.map_congr_left fun a _ => log_space_probability a _ hS

example : probsLog [some 0, none] = probs ([some 0, none].map expE) :=
  probabilities_log_space _ (lsum_map_expE_pos List.mem_cons_self)

/-- `effective_sample_size` as written — `log_w -= logsumexp(log_w); exp(-logsumexp(2*log_w))` on a vector
that may contain `-inf` — is the model's ESS of the weights `exp(log_w)`. -/
theorem ess_log_space (lw : List LogVal) (hS : 0 < lsum (lw.map expE)) :
    essLog lw = ess (lw.map expE) := by
  have hmap : ((subE lw (lseE lw)).map (fun a => a.map (fun x => 2 * x))).map expE =
      (probs (lw.map expE)).map (fun p => p * p) := by
    rw [← probabilities_log_space lw hS, probsLog, List.map_map, List.map_map]
    exact List.map_congr_left fun a _ => expE_two_mul a
  have hQ : 0 < lsum ((probs (lw.map expE)).map (fun p => p * p)) :=
    sumSq_pos _ (by rw [lsum_probs _ hS.ne']; exact one_pos)
  rw [essLog, lseE, hmap, Real.exp_neg, Real.exp_log hQ, ess, one_div]

example : essLog [some 0, none, some 0] = ess ([some 0, none, some 0].map expE) :=
  ess_log_space _ (lsum_map_expE_pos List.mem_cons_self)

/-- Shifting every log-weight by a constant `c` (entries `-inf` stay `-inf`) multiplies every weight by
the positive constant `exp c`. -/
theorem log_shift_is_scale (c : ℝ) (lw : List LogVal) :
    (shiftE c lw).map expE = (lw.map expE).map (fun x => Real.exp c * x) ∧ 0 < Real.exp c :=
  ⟨map_expE_shiftE c lw, Real.exp_pos c⟩

example : (shiftE 1 [some 0, none]).map expE = ([some 0, none].map expE).map (fun x => Real.exp 1 * x) :=
  (log_shift_is_scale 1 _).1

/-- The probabilities handed to `np.random.choice` (hence every multinomial draw) do not change when all
log-weights are shifted by a constant. -/
theorem probabilities_shift_invariant (c : ℝ) (lw : List LogVal) (hS : 0 < lsum (lw.map expE)) :
    probsLog (shiftE c lw) = probsLog lw := by
  rw [probabilities_log_space _ (lsum_map_expE_shiftE_pos c lw hS), probabilities_log_space _ hS,
    map_expE_shiftE, probs_map_mul_left (Real.exp_pos c).ne']

example : probsLog (shiftE 2 [some 0, none]) = probsLog [some 0, none] :=
  probabilities_shift_invariant 2 _ (lsum_map_expE_pos List.mem_cons_self)

variable {K : Type} [Field K] [LinearOrder K] [IsStrictOrderedRing K] {α : Type}

/-- Sample `i` is accepted exactly when its own uniform draw is below `wᵢ / w_max`
(strictly): each decision depends on `uᵢ` and `wᵢ / w_max` only. -/
theorem rejection_keep_iff (w u : List K) (i : Nat) :
    i ∈ rejectionIndices w u ↔
      ∃ (hw : i < w.length) (hu : i < u.length), u[i] < w[i] / lmax w := by
  simp only [rejectionIndices, mem_rejGo, Nat.zero_add, exists_eq_left']

example : (1 : Nat) ∈ rejectionIndices [(1 : ℚ), 1 / 2, 0] [9 / 10, 1 / 4, 0] := by decide +kernel

example : (1 : Nat) ∈ rejectionIndices [(1 : ℚ), 1 / 2, 0] [9 / 10, 1 / 4, 0] :=
  (rejection_keep_iff _ _ 1).mpr ⟨by decide, by decide, by decide +kernel⟩

/-- A sample carrying the maximum weight is accepted for every draw `u ∈ [0, 1)`
(weights not all zero). -/
theorem rejection_max_kept (w u : List K) (i : Nat) (hw : i < w.length) (hu : i < u.length)
    (hmax : w[i] = lmax w) (hpos : 0 < lmax w) (hu1 : u[i] < 1) :
    i ∈ rejectionIndices w u := by
  rw [rejection_keep_iff]
  refine ⟨hw, hu, ?_⟩
  rwa [hmax, div_self hpos.ne']

example : (0 : Nat) ∈ rejectionIndices [(2 : ℚ), 1] [999 / 1000, 0] :=
  rejection_max_kept _ _ 0 (by decide) (by decide) (by decide +kernel) (by decide +kernel) (by decide +kernel)

/-- Without "not all zero" nothing is accepted, not even the maximum-weight sample. -/
theorem rejection_max_kept_fails_without :
    (0 : Nat) ∉ rejectionIndices [(0 : ℚ), 0] [0, 0] := by decide +kernel

/-- With non-negative weights that are not all zero and all draws below one, rejection
sampling returns at least one sample (the maximum is attained somewhere). -/
theorem rejection_some_kept (w u : List K) (hw : ∀ x ∈ w, 0 ≤ x) (hpos : 0 < lmax w)
    (hlen : w.length ≤ u.length) (hu1 : ∀ x ∈ u, x < 1) :
    rejectionIndices w u ≠ [] := by
  obtain ⟨i, hi, hmax⟩ := List.getElem_of_mem ((lmax_eq_zero_or_mem w).resolve_left hpos.ne')
  have hiu : i < u.length := by omega
  exact List.ne_nil_of_mem (rejection_max_kept w u i hi hiu hmax hpos (hu1 _ (List.getElem_mem hiu)))

example : rejectionIndices [(1 : ℚ), 3, 2] [1 / 2, 1 / 2, 1 / 2] ≠ [] :=
  rejection_some_kept _ _ (by decide +kernel) (by decide +kernel) (by decide) (by decide +kernel)

/-- A zero-weight sample (log-weight `-inf`) is never accepted, whatever the draw `u ≥ 0`,
including `u = 0`. -/
theorem rejection_zero_never (w u : List K) (i : Nat) (hw : i < w.length) (hu : i < u.length)
    (hz : w[i] = 0) (hu0 : 0 ≤ u[i]) : i ∉ rejectionIndices w u := by
  rw [rejection_keep_iff]
  rintro ⟨_, _, h⟩
  rw [hz, zero_div] at h
  exact absurd hu0 (not_le.mpr h)

example : (1 : Nat) ∉ rejectionIndices [(1 : ℚ), 0] [0, 0] :=
  rejection_zero_never _ _ 1 (by decide) (by decide) rfl le_rfl

/-- The guard `0 ≤ u` is needed (a uniform draw is never negative). -/
theorem rejection_zero_never_fails_without :
    (1 : Nat) ∈ rejectionIndices [(1 : ℚ), 0] [0, -1] := by decide +kernel

/-- The accepted indices are strictly increasing, in range, and at most `N` many. -/
theorem rejection_indices_sorted (w u : List K) :
    (rejectionIndices w u).Pairwise (· < ·) ∧ (∀ i ∈ rejectionIndices w u, i < w.length) ∧
      (rejectionIndices w u).length ≤ w.length := by
  have h : (rejectionIndices w u).Sublist (List.range w.length) :=
    List.range_eq_range' ▸ rejGo_sublist (lmax w) 0 w u
  exact ⟨List.pairwise_lt_range.sublist h, fun i hi => List.mem_range.mp (h.subset hi),
    h.length_le.trans_eq List.length_range⟩

example : rejectionIndices [(1 : ℚ), 1 / 2, 0, 1] [9 / 10, 1 / 4, 0, 0] = [0, 1, 3] := by decide +kernel

example : ∀ i ∈ rejectionIndices [(1 : ℚ), 1 / 2, 0, 1] [9 / 10, 1 / 4, 0, 0], i < 4 :=
  (rejection_indices_sorted [(1 : ℚ), 1 / 2, 0, 1] [9 / 10, 1 / 4, 0, 0]).2.1

/-- Rejection sampling does not depend on the normalisation of the weights
(a constant shift of all log-weights). -/
theorem rejection_scale_invariant (w u : List K) (c : K) (hc : 0 < c) :
    rejectionIndices (w.map (fun x => c * x)) u = rejectionIndices w u := by
  rw [rejectionIndices, lmax_map_mul_left hc, rejGo_map_mul_left hc.ne', rejectionIndices]

example : rejectionIndices ([(1 : ℚ), 1 / 2].map (fun x => 8 * x)) [1 / 2, 1 / 4] =
    rejectionIndices [(1 : ℚ), 1 / 2] [1 / 2, 1 / 4] := rejection_scale_invariant _ _ 8 (by norm_num)

/-- Rejection sampling as written in the code does not change when all log-weights are shifted by a constant. -/
theorem rejection_shift_invariant (c : ℝ) (lw : List LogVal) (us : List ℝ) (hu : ∀ u ∈ us, 0 ≤ u) :
    rejLog (shiftE c lw) us = rejLog lw us := by
  rw [rejection_log_space _ _ hu, rejection_log_space _ _ hu, map_expE_shiftE]
  exact rejection_scale_invariant _ _ _ (Real.exp_pos c)

example : rejLog (shiftE (-3) [some 0, none]) [1 / 2, 0] = rejLog [some 0, none] [1 / 2, 0] :=
  rejection_shift_invariant (-3) _ _ (by intro u hu; simp at hu; rcases hu with rfl | rfl <;> norm_num)

/-- Looking indices up in the nested samples only ever yields nested samples, and for indices
in range the `k`-th returned sample is the nested sample at the `k`-th returned index. -/
theorem indices_identify (nested : List α) (idx : List Nat) :
    (∀ s ∈ takeIdx nested idx, s ∈ nested) ∧
      ((∀ i ∈ idx, i < nested.length) →
        (takeIdx nested idx).length = idx.length ∧
          ∀ k (hk : k < idx.length), (takeIdx nested idx)[k]? = nested[idx[k]]?) :=
  ⟨takeIdx_mem nested idx, fun h => ⟨takeIdx_length h, takeIdx_getElem h⟩⟩

example : takeIdx [10, 11, 12, 13] [3, 0, 0] = [13, 10, 10] := by decide

example : (takeIdx [10, 11, 12, 13] [3, 0, 0]).length = 3 :=
  ((indices_identify [10, 11, 12, 13] [3, 0, 0]).2 (by decide)).1

/-- For rejection sampling the returned samples are exactly the nested samples whose
acceptance test succeeded, in their original order (one sample per index, no repeats). -/
theorem indices_identify_rejection (nested : List α) (w u : List K) :
    takeIdx nested (rejectionIndices w u) = rejMask (lmax w) w u nested := by
  rw [takeIdx_eq]
  exact filterMap_rejGo (lmax w) 0 w u nested

example : takeIdx [10, 11, 12] (rejectionIndices [(1 : ℚ), 0, 1 / 2] [1 / 2, 0, 1 / 4]) = [10, 12] := by
  decide +kernel

example : takeIdx [10, 11, 12] (rejectionIndices [(1 : ℚ), 0, 1 / 2] [1 / 2, 0, 1 / 4]) =
    rejMask (lmax [(1 : ℚ), 0, 1 / 2]) [(1 : ℚ), 0, 1 / 2] [1 / 2, 0, 1 / 4] [10, 11, 12] :=
  indices_identify_rejection _ _ _

/-- With non-negative weights of positive total and a draw `0 ≤ u < 1`, index `i` is selected
exactly when `u ∈ [cdf_{i-1}, cdf_i)` where `cdf_i = (w₀+…+wᵢ)/Σw` — the table legacy
`RandomState.choice` builds (`cumsum(p) / cumsum(p)[-1]`, `searchsorted(side='right')`). -/
theorem multinomial_index_iff (w : List K) (hw : ∀ x ∈ w, 0 ≤ x) (hS : 0 < lsum w) (u : K)
    (hu0 : 0 ≤ u) (hu1 : u < 1) (i : Nat) :
    multIndex w u = i ↔
      i < w.length ∧ lsum (w.take i) / lsum w ≤ u ∧ u < lsum (w.take (i + 1)) / lsum w := by
  have hget := cdf_getElem w hS.ne'
  by_cases hi : i < w.length
  · have hic : i < (cdf w).length := by rwa [cdf_length]
    rw [multIndex, ssr_eq_iff_of_lt _ _ hic, hget]
    constructor
    · rintro ⟨h1, h2⟩
      refine ⟨hi, ?_, h1⟩
      cases i with
      | zero => rwa [List.take_zero, lsum_nil, zero_div]
      | succ i =>
        have := h2 i (Nat.lt_succ_self i)
        rwa [hget] at this
    · rintro ⟨_, h1, h2⟩
      refine ⟨h2, fun j hji => ?_⟩
      -- the table is non-decreasing, so every earlier entry is at most the previous one
      rw [hget]
      exact (div_le_div_of_nonneg_right (lsum_take_le hw (show j + 1 ≤ i from hji)) hS.le).trans h1
  · constructor
    · rintro rfl
      exact absurd (multIndex_lt_length w hS.ne' hu1) hi
    · exact fun h => absurd h.1 hi

example : multIndex [(1 : ℚ), 2, 1] (1 / 2) = 1 := by decide +kernel

example : multIndex [(1 : ℚ), 2, 1] (1 / 2) = 1 :=
  (multinomial_index_iff [(1 : ℚ), 2, 1] (by decide +kernel) (by decide +kernel) (1 / 2)
    (by norm_num) (by norm_num) 1).mpr ⟨by decide, by decide +kernel, by decide +kernel⟩

/-- Without `u < 1` the look-up runs off the end of the table (index `N`, not a sample). -/
theorem multinomial_index_iff_fails_without : multIndex [(1 : ℚ), 2, 1] 1 = 3 := by decide +kernel

/-- The interval of draws that select `i` has length `wᵢ / Σw`: under a uniform draw the
selection frequency is proportional to the weight. -/
theorem multinomial_interval_length (w : List K) (i : Nat) (hi : i < w.length) :
    lsum (w.take (i + 1)) / lsum w - lsum (w.take i) / lsum w = w[i] / lsum w := by
  rw [lsum_take_succ w i hi]
  ring

example : lsum ([(1 : ℚ), 2, 1].take 2) / 4 - lsum ([(1 : ℚ), 2, 1].take 1) / 4 = 2 / 4 := by
  decide +kernel

example : lsum ([(1 : ℚ), 2, 1].take 2) / lsum [(1 : ℚ), 2, 1] - lsum ([(1 : ℚ), 2, 1].take 1) / lsum [(1 : ℚ), 2, 1] =
    [(1 : ℚ), 2, 1][1] / lsum [(1 : ℚ), 2, 1] :=
  multinomial_interval_length [(1 : ℚ), 2, 1] 1 (by decide)

/-- Every multinomial draw is a valid index, and never the index of a zero-weight sample. -/
theorem multinomial_zero_never (w : List K) (hw : ∀ x ∈ w, 0 ≤ x) (hS : 0 < lsum w) (u : K)
    (hu0 : 0 ≤ u) (hu1 : u < 1) :
    ∃ hi : multIndex w u < w.length, w[multIndex w u] ≠ 0 := by
  obtain ⟨hi, hlo, hhi⟩ := (multinomial_index_iff w hw hS u hu0 hu1 _).mp rfl
  refine ⟨hi, ?_⟩
  intro hz
  rw [lsum_take_succ w _ hi, hz, add_zero] at hhi
  exact absurd (lt_of_le_of_lt hlo hhi) (lt_irrefl _)

example : multIndex [(0 : ℚ), 1, 0, 1] 0 = 1 ∧ multIndex [(0 : ℚ), 1, 0, 1] (1 / 2) = 3 := by
  decide +kernel

example : ∃ hi : multIndex [(0 : ℚ), 1, 0, 1] 0 < 4, [(0 : ℚ), 1, 0, 1][multIndex [(0 : ℚ), 1, 0, 1] 0] ≠ 0 :=
  multinomial_zero_never [(0 : ℚ), 1, 0, 1] (by decide +kernel) (by decide +kernel) 0 (by norm_num) (by norm_num)

/-- Multinomial resampling returns the requested number of draws, each a valid index of a sample with
non-zero weight.  The count part holds by construction of the model: `np.random.choice(N, size=n, p=…)`
is modelled as one table look-up per uniform for the first `n` uniforms (`(us.take n).map …`), so
"exactly n" is a fact about the model, not a derived one; that the real call returns `n` indices
(and `int(ESS)` of them by default) is what the correspondence and the oracle check on every case.
The derived content is the second part (every draw is in range and never a zero-weight sample),
`default_count` (the default `n` is `⌊ESS⌋ ∈ [1, N]`) and `draw_multinomial` (the whole call path:
`n` given or defaulted, samples looked up at the indices). -/
theorem multinomial_count (w : List K) (n : Nat) (us : List K) (hn : n ≤ us.length) :
    (multinomialIndices w n us).length = n ∧
      ((∀ x ∈ w, 0 ≤ x) → 0 < lsum w → (∀ x ∈ us, 0 ≤ x ∧ x < 1) →
        ∀ i ∈ multinomialIndices w n us, ∃ hi : i < w.length, w[i] ≠ 0) := by
  constructor
  · simp [multinomialIndices, List.length_take, hn]
  · intro hw hS hu i hi
    simp only [multinomialIndices, List.mem_map] at hi
    obtain ⟨x, hx, rfl⟩ := hi
    have := hu x (List.mem_of_mem_take hx)
    exact multinomial_zero_never w hw hS x this.1 this.2

example : multinomialIndices [(1 : ℚ), 2, 1] 3 [0, 1 / 2, 7 / 8, 1 / 3] = [0, 1, 2] := by decide +kernel

example : (multinomialIndices [(1 : ℚ), 2, 1] 3 [0, 1 / 2, 7 / 8, 1 / 3]).length = 3 ∧
    ∀ i ∈ multinomialIndices [(1 : ℚ), 2, 1] 3 [0, 1 / 2, 7 / 8, 1 / 3], ∃ hi : i < 3, [(1 : ℚ), 2, 1][i] ≠ 0 :=
  let h := multinomial_count [(1 : ℚ), 2, 1] 3 [0, 1 / 2, 7 / 8, 1 / 3] (by decide)
  ⟨h.1, h.2 (by decide +kernel) (by decide +kernel) (by decide +kernel)⟩

/-- Multinomial resampling does not depend on the normalisation of the weights. -/
theorem multinomial_scale_invariant (w : List K) (n : Nat) (us : List K) (c : K) (hc : c ≠ 0) :
    multinomialIndices (w.map (fun x => c * x)) n us = multinomialIndices w n us := by
  unfold multinomialIndices cdf
  rw [probs_map_mul_left hc]

example : multinomialIndices ([(1 : ℚ), 2].map (fun x => 5 * x)) 1 [1 / 2] =
    multinomialIndices [(1 : ℚ), 2] 1 [1 / 2] :=
  multinomial_scale_invariant [(1 : ℚ), 2] 1 [1 / 2] 5 (by norm_num)

/-- The quantity the code computes, `1 / Σ pᵢ²` with `pᵢ = wᵢ/Σw`, is Kish's `(Σw)² / Σw²`. -/
theorem ess_eq_kish (w : List K) : ess w = lsum w * lsum w / lsum (w.map (fun x => x * x)) := by
  rw [ess, probs, lsum_map_sq_div, one_div_div, sumSq]

example : ess [(1 : ℚ), 1, 2] = 8 / 3 := by decide +kernel

example : ess [(1 : ℚ), 1, 2] = lsum [(1 : ℚ), 1, 2] * lsum [(1 : ℚ), 1, 2] / lsum ([(1 : ℚ), 1, 2].map (fun x => x * x)) :=
  ess_eq_kish _

/-- `1 ≤ ESS ≤ N` for non-negative weights that are not all zero. -/
theorem ess_bounds (w : List K) (hw : ∀ x ∈ w, 0 ≤ x) (hS : 0 < lsum w) :
    1 ≤ ess w ∧ ess w ≤ (w.length : K) := by
  rw [ess_eq_kish]
  have hQ := sumSq_pos w hS
  exact ⟨(one_le_div hQ).mpr (sumSq_le_sq_sum w hw), (div_le_iff₀ hQ).mpr (sq_sum_le_length_mul_sumSq w)⟩

example : 1 ≤ ess [(1 : ℚ), 0, 2] ∧ ess [(1 : ℚ), 0, 2] ≤ 3 := by decide +kernel

example : 1 ≤ ess [(1 : ℚ), 0, 2] ∧ ess [(1 : ℚ), 0, 2] ≤ (([(1 : ℚ), 0, 2].length : ℕ) : ℚ) :=
  ess_bounds [(1 : ℚ), 0, 2] (by decide +kernel) (by decide +kernel)

/-- The lower bound needs non-negative weights (which `exp(log_w)` always are). -/
theorem ess_bounds_fails_without : ess [(2 : ℚ), -1] < 1 := by decide +kernel

/-- All-zero weights (every log-weight `-inf`) are outside the bounds: the model yields 0
(the code yields NaN). -/
theorem ess_bounds_fails_without_total : ess [(0 : ℚ), 0] = 0 := by decide +kernel

/-- The ESS does not change when all weights are multiplied by a constant
(all log-weights shifted by a constant). -/
theorem ess_scale_invariant (w : List K) (c : K) (hc : c ≠ 0) :
    ess (w.map (fun x => c * x)) = ess w := by
  unfold ess
  rw [probs_map_mul_left hc]

example : ess ([(1 : ℚ), 1, 2].map (fun x => 7 * x)) = ess [(1 : ℚ), 1, 2] :=
  ess_scale_invariant _ 7 (by norm_num)

/-- **The ESS does not change when all log-weights are shifted by a constant** (log-space statement,
`-inf` entries allowed, weights not all zero). -/
theorem ess_shift_invariant (c : ℝ) (lw : List LogVal) (hS : 0 < lsum (lw.map expE)) :
    essLog (shiftE c lw) = essLog lw := by
  rw [ess_log_space _ (lsum_map_expE_shiftE_pos c lw hS), ess_log_space _ hS, map_expE_shiftE]
  exact ess_scale_invariant _ _ (Real.exp_pos c).ne'

example : essLog (shiftE 5 [some 0, none, some 2]) = essLog [some 0, none, some 2] :=
  ess_shift_invariant 5 _ (lsum_map_expE_pos List.mem_cons_self)

/-- `effective_n_posterior_samples` is the same quantity, with 0 for an empty state. -/
theorem effectiveN_eq (w : List K) : effectiveN w = if w = [] then 0 else ess w := by
  unfold effectiveN
  cases w <;> simp

example : effectiveN ([] : List ℚ) = 0 ∧ effectiveN [(1 : ℚ), 1] = 2 := by decide +kernel

example : effectiveN [(1 : ℚ), 1] = if [(1 : ℚ), 1] = [] then 0 else ess [(1 : ℚ), 1] := effectiveN_eq _

/-- The default number of multinomial draws is the integer part of the ESS, and lies in `[1, N]`. -/
theorem default_count (w : List ℚ) (hw : ∀ x ∈ w, 0 ≤ x) (hS : 0 < lsum w) :
    ((defaultN w : ℚ) ≤ ess w ∧ ess w < (defaultN w : ℚ) + 1) ∧ 1 ≤ defaultN w ∧ defaultN w ≤ w.length := by
  obtain ⟨h1, hN⟩ := ess_bounds w hw hS
  rw [defaultN_eq_natFloor]
  exact ⟨⟨Nat.floor_le (zero_le_one.trans h1), Nat.lt_floor_add_one _⟩,
    Nat.le_floor (by exact_mod_cast h1), Nat.floor_le_of_le hN⟩

example : defaultN [(1 : ℚ), 1, 2] = 2 := by decide +kernel

example : 1 ≤ defaultN [(1 : ℚ), 1, 2] ∧ defaultN [(1 : ℚ), 1, 2] ≤ 3 :=
  (default_count [(1 : ℚ), 1, 2] (by decide +kernel) (by decide +kernel)).2

/-- `draw_posterior_samples(method="rejection_sampling")` on matching non-empty inputs returns the
accepted indices and the nested samples at those indices; `n` is ignored. -/
theorem draw_rejection (nested : List α) (w u : List ℚ) (n : Option Nat)
    (hN : nested ≠ []) (hw : w.length = nested.length) (hu : nested.length ≤ u.length) :
    drawPosterior "rejection_sampling" n nested w u =
      .ok (rejectionIndices w u, takeIdx nested (rejectionIndices w u)) := by
  have h1 : methodOf "rejection_sampling" = some .rejection := by simp [methodOf]
  have h2 : ¬ (nested.length = 0 ∨ w.length ≠ nested.length) := by
    simp [hw, hN]
  have h3 : ¬ u.length < nested.length := by omega
  simp only [drawPosterior, h1, if_neg h2, if_neg h3]

example : (drawPosterior "rejection_sampling" none [10, 11, 12] [1, 1 / 2, 0] [1 / 2, 1 / 2, 0]).toOption =
    some ([0], [10]) := by decide +kernel

example : drawPosterior "rejection_sampling" (some 7) [10, 11, 12] [1, 1 / 2, 0] [1 / 2, 1 / 2, 0] =
    .ok (rejectionIndices [(1 : ℚ), 1 / 2, 0] [1 / 2, 1 / 2, 0],
      takeIdx [10, 11, 12] (rejectionIndices [(1 : ℚ), 1 / 2, 0] [1 / 2, 1 / 2, 0])) :=
  draw_rejection [10, 11, 12] [1, 1 / 2, 0] [1 / 2, 1 / 2, 0] (some 7) (by decide) (by decide) (by decide)

/-- `draw_posterior_samples` with `method="multinomial_resampling"` (or its alias
`"importance_sampling"`) returns exactly `n` samples — `⌊ESS⌋` of them when `n` is not given —
each of them the nested sample at the returned index. -/
theorem draw_multinomial (method : String)
    (hm : method = "multinomial_resampling" ∨ method = "importance_sampling")
    (nested : List α) (w u : List ℚ) (n : Option Nat)
    (hN : nested ≠ []) (hlen : w.length = nested.length) (hw : ∀ x ∈ w, 0 ≤ x) (hS : 0 < lsum w)
    (hu : ∀ x ∈ u, 0 ≤ x ∧ x < 1) (hk : n.getD (defaultN w) ≤ u.length) :
    ∃ idx s, drawPosterior method n nested w u = .ok (idx, s) ∧
      idx.length = n.getD (defaultN w) ∧ s.length = idx.length ∧
      (∀ i ∈ idx, i < nested.length) ∧ (∀ x ∈ s, x ∈ nested) ∧
      ∀ k (hk : k < idx.length), s[k]? = nested[idx[k]]? := by
  have h1 : methodOf method = some .multinomial := by
    rcases hm with rfl | rfl <;> simp [methodOf]
  have h2 : ¬ (nested.length = 0 ∨ w.length ≠ nested.length) := by
    simp [hlen, hN]
  obtain ⟨hc, hv⟩ := multinomial_count w (n.getD (defaultN w)) u hk
  have hrange : ∀ i ∈ multinomialIndices w (n.getD (defaultN w)) u, i < nested.length :=
    fun i hi => hlen ▸ (hv hw hS hu i hi).1
  refine ⟨multinomialIndices w (n.getD (defaultN w)) u,
    takeIdx nested (multinomialIndices w (n.getD (defaultN w)) u), ?_,
    hc, takeIdx_length hrange, hrange, takeIdx_mem _ _, takeIdx_getElem hrange⟩
  simp only [drawPosterior, h1, if_neg h2, if_neg hS.ne', if_neg (Nat.not_lt.mpr hk)]

example : (drawPosterior "importance_sampling" none [10, 11, 12] [1, 1, 2] [0, 1 / 2, 3 / 4]).toOption =
    some ([0, 2], [10, 12]) := by decide +kernel

example : ∃ idx s, drawPosterior "importance_sampling" none [10, 11, 12] [1, 1, 2] [0, 1 / 2, 3 / 4] = .ok (idx, s) ∧
    idx.length = defaultN [1, 1, 2] ∧ s.length = idx.length := by
  obtain ⟨idx, s, h, hc, hl, _⟩ := draw_multinomial "importance_sampling" (Or.inr rfl) [10, 11, 12]
    [1, 1, 2] [0, 1 / 2, 3 / 4] none (by decide) (by decide) (by decide +kernel) (by decide +kernel)
    (by decide +kernel) (by decide +kernel)
  exact ⟨idx, s, h, hc, hl⟩

/-- One unknown method string, `"nested_sampling"`, is rejected by the model (every unknown string: on the generated side
only, `draw_posterior_source_unknown`). -/
theorem draw_unknown_method (nested : List α) (w u : List ℚ) (n : Option Nat) :
    drawPosterior "nested_sampling" n nested w u = .error .valueErr := by
  have h1 : methodOf "nested_sampling" = none := by simp [methodOf]
  simp only [drawPosterior, h1]

example : (drawPosterior "nested_sampling" none [1] [1] [0]).toOption = none := by decide +kernel

example : drawPosterior "nested_sampling" (some 3) [1, 2] [1, 1] [0, 0] = .error .valueErr :=
  draw_unknown_method _ _ _ _

/-!
`Gen/ResampleTx.lean` is produced by `harness/pylogvec2lean.py` from the current text of `effective_sample_size`,
`_BaseNSIntegralState.effective_n_posterior_samples` and `draw_posterior_samples` (log-weight vectors ↦ weights, statement
by statement; the uniform draws are an input).  The theorems below identify the generated `effective_sample_size` and
`effective_n_posterior_samples` with the model's `ess` and `effectiveN`, express the generated `draw_posterior_samples` arm by arm
through `rejectionIndices`, `multinomialIndices` and the `ValueError`, and identify it with `drawPosterior` for rejection sampling
on the model's domain at `K = ℚ`.  The theorems of this file about those definitions are thereby about the source as it is now.
For the multinomial methods `drawPosterior` is tied to the source only through `multinomialIndices`; the log-space forms `rejLog`,
`probsLog`, `essLog` are written by hand (`Proofs/ResampleLog.lean`) and are tied to the weight-domain ones, not to the source. -/

theorem ess_source_eq_model (w : List K) : Gen.ResampleTx.effective_sample_size w = ess w := rfl

theorem effective_n_source_eq_model (w : List K) : Gen.ResampleTx.effective_n_posterior_samples w = effectiveN w := rfl

theorem whereGtGo_eq_rejGo (m : K) (k : Nat) (w u : List K) :
    whereGtGo k (w.map (fun x => x / m)) u = rejGo m k w u :=
  (rejGo_eq_whereGtGo m k w u).symm

/-- the rejection arm of the source: the indices are the model's `rejectionIndices`, the samples the nested samples there -/
theorem draw_posterior_source_rejection (intOf : K → Nat) (nested : List α) (n : Option Nat) (w u : List K) (r : Bool) :
    Gen.ResampleTx.draw_posterior_samples intOf nested n w "rejection_sampling" r u =
      .ok (takeIdx nested (rejectionIndices w u), rejectionIndices w u) := by
  simp [Gen.ResampleTx.draw_posterior_samples, whereGt, rejectionIndices, whereGtGo_eq_rejGo]

/-- the multinomial arm of the source (both spellings): `n` draws, `intOf (ess w)` of them when `n` is not given -/
theorem draw_posterior_source_multinomial (intOf : K → Nat) (method : String)
    (hm : method = "multinomial_resampling" ∨ method = "importance_sampling")
    (nested : List α) (n : Option Nat) (w u : List K) (r : Bool) :
    Gen.ResampleTx.draw_posterior_samples intOf nested n w method r u =
      .ok (takeIdx nested (multinomialIndices w (n.getD (intOf (ess w))) u),
           multinomialIndices w (n.getD (intOf (ess w))) u) := by
  rcases hm with rfl | rfl <;>
    simp [Gen.ResampleTx.draw_posterior_samples, choiceIdx, multinomialIndices, cdf, probs, ess_source_eq_model]

/-- any other method string is rejected by the generated definition -/
theorem draw_posterior_source_unknown (intOf : K → Nat) (method : String)
    (h1 : method ≠ "rejection_sampling") (h2 : method ≠ "importance_sampling") (h3 : method ≠ "multinomial_resampling")
    (nested : List α) (n : Option Nat) (w u : List K) (r : Bool) :
    Gen.ResampleTx.draw_posterior_samples intOf nested n w method r u = .error .valueErr := by
  simp [Gen.ResampleTx.draw_posterior_samples, h1, h2, h3]

/-- on the model's domain (matching non-empty inputs, enough uniforms) the generated `draw_posterior_samples` at `K = ℚ`,
`int = ⌊·⌋`, IS `drawPosterior` (pair order swapped: the code returns `(samples, indices)`) — rejection sampling -/
theorem draw_posterior_source_eq_model_rejection (nested : List α) (w u : List ℚ) (n : Option Nat) (r : Bool)
    (hN : nested ≠ []) (hw : w.length = nested.length) (hu : nested.length ≤ u.length) :
    (Gen.ResampleTx.draw_posterior_samples (fun q : ℚ => q.floor.toNat) nested n w "rejection_sampling" r u).map Prod.swap =
      drawPosterior "rejection_sampling" n nested w u := by
  rw [draw_posterior_source_rejection, draw_rejection nested w u n hN hw hu]
  rfl

example : (Gen.ResampleTx.draw_posterior_samples (fun q : ℚ => q.floor.toNat) [10, 11, 12] none [1, 1 / 2, 0]
    "rejection_sampling" true [1 / 2, 1 / 2, 0]).toOption = some ([10], [0]) := by decide +kernel

end NessaiVerif.C16
