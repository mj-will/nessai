import NessaiVerif.Model.OrderedSamples
import NessaiVerif.Proofs.Ordered
import NessaiVerif.Gen.OrderedTx
import NessaiVerif.Gen.OrderedOps
/-
C04 — the INS sample store stays sorted, partitioned and aligned under all updates.
The model (Model/OrderedSamples.lean) is the literal index program of
`nessai.samplers.importancesampler.OrderedSamples`.

NOT MODELLED: keys are integers (`Smp.key : Int`), so NaN likelihoods have no counterpart (nessai does not keep them
from the store: the importance sampler only logs a warning when a log-likelihood is not finite, and raises for `+inf`
in the initial points alone); `-inf` likelihoods are ordinary smallest keys for NumPy's sort /
searchsorted / comparisons and are driven through the correspondence as the sentinel key -999.  States reached
after an exception are not explored.  There is no separate abstract "spec" object: the observational theorems
(`add_soft_observable`, `strict_live_eq`, `removed_count_eq`, `removed_all`, `finalise_moves_all`,
`insert_at_searchsorted_is_merge`) play that role.
-/
namespace NessaiVerif.C04
open NessaiVerif.Np NessaiVerif.Ordered

/-- samples contributed by an operation -/
def batchOf : Op → List Smp
  | .init b => b.map (·.1)
  | .add b => b.map (·.1)
  | _ => []

def isInit : Op → Bool
  | .init _ => true
  | _ => false

/-- rows of a batch are the rows of its samples (`r` = "the density row belonging to sample x") -/
def rowsOk (r : Smp → Nat) : Op → Prop
  | .init b => ∀ x ∈ b, x.2 = r x.1
  | .add b => ∀ x ∈ b, x.2 = r x.1
  | _ => True

/-- The structural clause of the property, in plain terms. -/
structure WellFormed (s : OS) (smp : List Smp) : Prop where
  stored : s.samples = some smp
  sorted : smp.Pairwise (fun a b => a.key ≤ b.key)
  live_strictly_increasing : (s.live.getD []).Pairwise (· < ·)
  nested_strictly_increasing : s.nested.Pairwise (· < ·)
  partition : ((s.live.getD []) ++ s.nested).Perm (List.range smp.length)
  rows_len : s.rows.length = smp.length

theorem wellFormed_of_inv {s : OS} {smp : List Smp} (h : Inv s smp) : WellFormed s smp :=
  ⟨h.hs, h.sorted.imp (fun h => by omega), h.liveInc, h.nestedInc, h.part, h.rowsLen⟩

/-- a state reachable by a history `init b; ops` (ops without a second initial insertion) that did not raise -/
def Reachable (s : OS) : Prop :=
  ∃ (st ra : Bool) (b : List (Smp × Nat)) (ops : List Op),
    (∀ op ∈ ops, isInit op = false) ∧ run { strict := st, replAll := ra } (.init b :: ops) = .ok s

/-- One step from a state satisfying the invariant: invariant kept, every sample conserved, rows attached. -/
theorem step_preserves (s : OS) (smp : List Smp) (h : Inv s smp) (op : Op) (hop : isInit op = false)
    (s' : OS) (out : Option Nat) (hok : step s op = .ok (s', out)) :
    ∃ smp', Inv s' smp' ∧ smp'.Perm (smp ++ batchOf op) ∧
      (∀ r, s.rows = smp.map r → rowsOk r op → s'.rows = smp'.map r) ∧
      s'.strict = s.strict ∧ s'.replAll = s.replAll := by
  cases op with
  | init b => cases hop
  | thr t =>
    cases hok
    exact ⟨smp, ⟨h.hs, h.sorted, h.rowsLen, h.liveInc, h.nestedInc, h.part⟩, by simp [batchOf],
      fun r hr _ => hr, rfl, rfl⟩
  | add b =>
    obtain ⟨s1, hs1, heq⟩ := map_eq_ok hok
    cases heq
    rcases Bool.eq_false_or_eq_true s.strict with hst | hst
    · -- strict (the lemma's disjunction is `b = true ∨ b = false`)
      obtain ⟨hinv, _, hrows, _, h2, h3⟩ := addSamples_strict_observe h hst b hs1
      exact ⟨_, hinv, merge_batch_perm smp b, hrows, h2, h3⟩
    · -- soft
      have hb : b ≠ [] := by rintro rfl; exact addSamples_soft_nil hst hs1
      obtain ⟨s2, hok2, hinv, _, _, hrows, _, h2, h3⟩ := addSamples_soft_observe h hst b hb
      cases hs1.symm.trans hok2
      exact ⟨_, hinv, merge_batch_perm smp b, hrows, h2, h3⟩
  | remove =>
    obtain ⟨⟨s1, n⟩, hv, heq⟩ := map_eq_ok hok
    cases heq
    obtain ⟨hinv, hrows, hflags⟩ :
        Inv s' smp ∧ s'.rows = s.rows ∧ s'.strict = s.strict ∧ s'.replAll = s.replAll := by
      rcases Bool.eq_false_or_eq_true s.replAll with hr | hr
      · -- replace-all
        obtain ⟨hinv, -, -, hrows, hflags⟩ := finalise_observe h (removeSamples_replAll hr hv).1
        exact ⟨hinv, hrows, hflags⟩
      · -- below the threshold only
        obtain ⟨hinv, -, hrows, hflags⟩ := removeSamples_observe h hr hv
        exact ⟨hinv, hrows, hflags⟩
    exact ⟨smp, hinv, by simp [batchOf], fun r hr _ => hrows.trans hr, hflags⟩
  | finalise =>
    obtain ⟨s1, hs1, heq⟩ := map_eq_ok hok
    cases heq
    obtain ⟨hinv, -, -, hrows, hflags⟩ := finalise_observe h hs1
    exact ⟨smp, hinv, by simp [batchOf], fun r hr _ => hrows.trans hr, hflags⟩

/-- Invariant, conservation and row attachment along any init-free op list. -/
theorem run_preserves (ops : List Op) : ∀ (s : OS) (smp : List Smp), Inv s smp →
    (∀ op ∈ ops, isInit op = false) → ∀ s', run s ops = .ok s' →
    ∃ smp', Inv s' smp' ∧ smp'.Perm (smp ++ (ops.map batchOf).flatten) ∧
      (∀ r, s.rows = smp.map r → (∀ op ∈ ops, rowsOk r op) → s'.rows = smp'.map r) := by
  induction ops with
  | nil =>
    intro s smp h _ s' hok
    simp [run] at hok
    subst hok
    exact ⟨smp, h, by simp, fun r hr _ => hr⟩
  | cons op ops ih =>
    intro s smp h hops s' hok
    simp only [run] at hok
    split at hok
    · rename_i s1 out hstep
      obtain ⟨smp1, hinv1, hperm1, hrows1, _, _⟩ :=
        step_preserves s smp h op (hops op (by simp)) s1 out hstep
      obtain ⟨smp2, hinv2, hperm2, hrows2⟩ :=
        ih s1 smp1 hinv1 (fun o ho => hops o (by simp [ho])) s' hok
      refine ⟨smp2, hinv2, ?_, ?_⟩
      · refine hperm2.trans ?_
        simp only [List.map_cons, List.flatten_cons, ← List.append_assoc]
        exact List.Perm.append_right _ hperm1
      · intro r hr hall
        exact hrows2 r (hrows1 r hr (hall op (by simp))) (fun o ho => hall o (by simp [ho]))
    · cases hok

/-- For each of the four modes, every initial batch and every sequence of
batch insertions, threshold updates, removals and finalisation — of any length, any batch sizes, ties and values
below/at/above the threshold included — if no call raised, the store is sorted, live and discarded index sets
are strictly increasing and partition the stored samples, every sample ever added is present exactly once
(multiset equality), and every density-table row is attached to its sample. -/
theorem store_invariant (st ra : Bool) (b : List (Smp × Nat)) (ops : List Op)
    (hops : ∀ op ∈ ops, isInit op = false) (s : OS)
    (hok : run { strict := st, replAll := ra } (.init b :: ops) = .ok s) :
    ∃ smp, WellFormed s smp ∧
      smp.Perm (b.map (·.1) ++ (ops.map batchOf).flatten) ∧
      (∀ r : Smp → Nat, (∀ x ∈ b, x.2 = r x.1) → (∀ op ∈ ops, rowsOk r op) → s.rows = smp.map r) := by
  simp only [run, step] at hok
  have hinv0 := inv_addInitial { strict := st, replAll := ra } b rfl
  obtain ⟨smp, hinv, hperm, hrows⟩ := run_preserves ops _ _ hinv0 hops s hok
  refine ⟨smp, wellFormed_of_inv hinv, ?_, ?_⟩
  · exact hperm.trans (List.Perm.append_right _ ((sortBatch_perm b).map _))
  · exact fun r hb hall => hrows r (sortBatch_rows r b hb) hall

theorem reachable_inv (s : OS) (h : Reachable s) : ∃ smp, Inv s smp := by
  obtain ⟨st, ra, b, ops, hops, hok⟩ := h
  simp only [run, step] at hok
  obtain ⟨smp, hinv, _, _⟩ := run_preserves ops _ _ (inv_addInitial { strict := st, replAll := ra } b rfl) hops s hok
  exact ⟨smp, hinv⟩

/-- Soft threshold: inserting a batch leaves the discarded samples exactly as they were (same samples,
same order) and the live samples gain exactly the batch. -/
theorem add_soft_observable (s : OS) (hr : Reachable s) (hst : s.strict = false)
    (b : List (Smp × Nat)) (s' : OS) (hok : addSamples s b = .ok s') :
    nestedSamples s' = nestedSamples s ∧ (liveSamples s').Perm (liveSamples s ++ b.map (·.1)) := by
  obtain ⟨smp, hinv⟩ := reachable_inv s hr
  have hb : b ≠ [] := by rintro rfl; exact addSamples_soft_nil hst hok
  obtain ⟨s2, hok2, _, hn, hl, _⟩ := addSamples_soft_observe hinv hst b hb
  cases hok.symm.trans hok2
  exact ⟨hn, hl.trans (((sortBatch_perm b).map _).append_left _)⟩

/-- Strict threshold: after an insertion the live set is exactly the stored samples at or above the
threshold and the discarded set exactly those strictly below — with no side condition, because `add_samples`
counts the samples with `logL < threshold` (`np.count_nonzero`): that is right also when no sample reaches the
threshold (an `np.argmax(logL >= threshold)`, which the code had here before /repo commit 2393276, gives 0 there). -/
theorem strict_live_eq (s : OS) (hr : Reachable s) (hst : s.strict = true) (t : Int) (ht : s.thr = some t)
    (b : List (Smp × Nat)) (s' : OS) (hok : addSamples s b = .ok s') :
    ∃ smp', s'.samples = some smp' ∧
      liveSamples s' = smp'.filter (fun y => !decide (y.key < t)) ∧
      nestedSamples s' = smp'.filter (fun y => decide (y.key < t)) := by
  obtain ⟨smp, hinv⟩ := reachable_inv s hr
  obtain ⟨hinv', hobs, _⟩ := addSamples_strict_observe hinv hst b hok
  exact ⟨_, hinv'.hs, hobs t ht⟩

/-- Removal (not replace-all): the reported count is the number of live samples strictly below the
threshold; exactly those are moved to the discarded set, the others stay live. -/
theorem removed_count_eq (s : OS) (hr : Reachable s) (hra : s.replAll = false) (t : Int) (ht : s.thr = some t)
    (s' : OS) (n : Nat) (hok : removeSamples s = .ok (s', n)) :
    n = ((liveSamples s).filter (fun y => decide (y.key < t))).length ∧
    liveSamples s' = (liveSamples s).filter (fun y => !decide (y.key < t)) ∧
    (nestedSamples s').Perm (nestedSamples s ++ (liveSamples s).filter (fun y => decide (y.key < t))) := by
  obtain ⟨smp, hinv⟩ := reachable_inv s hr
  exact (removeSamples_observe hinv hra hok).2.1 t ht

/-- Removal in replace-all mode: all live samples are reported and moved. -/
theorem removed_all (s : OS) (hr : Reachable s) (hra : s.replAll = true)
    (s' : OS) (n : Nat) (hok : removeSamples s = .ok (s', n)) :
    n = (liveSamples s).length ∧ liveSamples s' = [] ∧
    (nestedSamples s').Perm (nestedSamples s ++ liveSamples s) := by
  obtain ⟨smp, hinv⟩ := reachable_inv s hr
  obtain ⟨hf, hn⟩ := removeSamples_replAll hra hok
  have := finalise_observe hinv hf
  exact ⟨hn, this.2.1, this.2.2.1⟩

/-- Finalisation consumes every live sample exactly once. -/
theorem finalise_moves_all (s : OS) (hr : Reachable s) (s' : OS) (hok : Ordered.finalise s = .ok s') :
    liveSamples s' = [] ∧ (nestedSamples s').Perm (nestedSamples s ++ liveSamples s) := by
  obtain ⟨smp, hinv⟩ := reachable_inv s hr
  have := finalise_observe hinv hok
  exact ⟨this.2.1, this.2.2.1⟩

/-- the literal `np.insert(a, np.searchsorted(a, b), b)` program on sorted inputs is the merge (ties: new first) -/
theorem insert_at_searchsorted_is_merge (old new : List Smp) (ho : SortedK Smp.key old) :
    insertMany old (new.map (fun v => ssl (keys old) v.key)) new 0 = mergeNew Smp.key old new :=
  insert_eq_merge old new ho

/-- non-vacuity: a concrete history with ties, a below-threshold batch and a removal runs without error -/
example : (run { strict := false, replAll := false }
    [.init [(⟨3, 1⟩, 1), (⟨1, 2⟩, 2), (⟨2, 3⟩, 3)], .thr 2, .remove,
     .add [(⟨2, 4⟩, 4), (⟨0, 5⟩, 5), (⟨5, 6⟩, 6)], .remove, .finalise]).toOption.map (·.nested)
    = some [0, 1, 2, 3, 4, 5] := by decide +kernel

/-- non-vacuity, strict threshold: a new sample below the threshold is stored straight among the nested samples;
live = exactly the stored samples at/above the threshold -/
example : (run { strict := true, replAll := false }
    [.init [(⟨3, 1⟩, 1), (⟨1, 2⟩, 2), (⟨2, 3⟩, 3)], .thr 2, .remove,
     .add [(⟨1, 4⟩, 4), (⟨2, 5⟩, 5), (⟨4, 6⟩, 6)]]).toOption.map (fun s => (s.samples.map (·.map (·.key)), s.live, s.nested))
    = some (some [1, 1, 2, 2, 3, 4], some [2, 3, 4, 5], [0, 1]) := by decide +kernel

/-- non-vacuity, replace-all: a removal moves EVERY live sample, whatever the threshold (`live_points_indices = None`) -/
example : (run { strict := false, replAll := true }
    [.init [(⟨3, 1⟩, 1), (⟨1, 2⟩, 2), (⟨2, 3⟩, 3)], .thr 2, .remove]).toOption.map (fun s => (s.live, s.nested))
    = some (none, [0, 1, 2]) := by decide +kernel

/-- non-vacuity, empty initial batch followed by an addition -/
example : (run { strict := false, replAll := false }
    [.init [], .add [(⟨2, 1⟩, 1), (⟨1, 2⟩, 2)], .thr 2, .remove]).toOption.map (fun s => (s.live, s.nested))
    = some (some [1], [0]) := by decide +kernel

/-- the theorems apply to such a history (strict mode): it runs without error … -/
example : (run { strict := true, replAll := false }
    [.init [(⟨3, 1⟩, 1), (⟨1, 2⟩, 2)], .thr 2, .remove, .add [(⟨1, 4⟩, 4), (⟨4, 6⟩, 6)]]).toOption.isSome = true := by
  decide +kernel

/-- … and its final state is well formed, by `reachable_inv` -/
example (s : OS) (hs : run { strict := true, replAll := false }
    [.init [(⟨3, 1⟩, 1), (⟨1, 2⟩, 2)], .thr 2, .remove, .add [(⟨1, 4⟩, 4), (⟨4, 6⟩, 6)]] = .ok s) :
    ∃ smp, WellFormed s smp := by
  obtain ⟨smp, hinv⟩ := reachable_inv s ⟨true, false, _, _, by decide, hs⟩
  exact ⟨smp, wellFormed_of_inv hinv⟩

/-- **The source of `add_to_nested_samples` IS the modelled index program** (translation tie).  `Gen/OrderedTx.lean` is
regenerated on every run from the current text of `OrderedSamples.add_to_nested_samples` by `harness/pyarr2lean.py`
(`np.searchsorted` of an index array in an index array, `np.insert` at those positions).  The generated definition never
raises and returns the model's `addToNested` — the step through which `remove_samples` and `finalise` move live points to the
nested samples — for every pair of index arrays. -/
theorem add_to_nested_samples_source_eq_model (nested idxs : List Nat) :
    Gen.OrderedTx.add_to_nested_samples nested idxs = .ok (addToNested nested idxs) := rfl

example := add_to_nested_samples_source_eq_model [0, 2, 5] [1, 3]

/-!
`Gen/OrderedOps.lean` is produced by `harness/pyidx2lean.py` from the current text of `OrderedSamples.add_initial_samples`,
`add_samples`, `remove_samples` and `finalise` (statement by statement; an Optional value is unwrapped, with `TypeError`, exactly
where the code needs a value).  On every state whose `samples` is `None` only if `live_points_indices` is (every reachable
state: `add_initial_samples` sets both) the generated definitions compute the fields of the model's operations — so
`store_invariant` and the observational theorems above are about the source as it is now.  The side condition is there because
the model's `removeSamples` and `finalise` raise `typeErr` whenever `samples` is `None`, while `finalise` and the replace-all
branch of `remove_samples` never read `samples`: source and model differ exactly when `samples` is `None` and
`live_points_indices` is not. -/

/-- the four mutable fields, in the order the generated definitions return them -/
def fieldsOf (s : OS) : Option (List Smp) × List Nat × Option (List Nat) × List Nat := (s.samples, s.rows, s.live, s.nested)

theorem zip_map_fst_snd {α β : Type} (b : List (α × β)) : (b.map (·.1)).zip (b.map (·.2)) = b := by
  induction b with
  | nil => rfl
  | cons x xs ih => simp [ih]

/-- the side condition of `remove_samples_source_eq_model` / `finalise_source_eq_model` holds in every reachable state
(`samples` is never `None` once `add_initial_samples` has run) -/
theorem reachable_samples_some (s : OS) (hr : Reachable s) : s.samples = none → s.live = none := by
  obtain ⟨smp, hinv⟩ := reachable_inv s hr
  intro h
  rw [hinv.hs] at h
  cases h

theorem add_initial_samples_source_eq_model (s : OS) (b : List (Smp × Nat)) :
    Gen.OrderedOps.add_initial_samples s.samples s.rows s.live s.nested s.thr s.strict s.replAll (b.map (·.1)) (b.map (·.2)) =
      .ok (fieldsOf (addInitial s b)) := by
  simp [Gen.OrderedOps.add_initial_samples, addInitial, fieldsOf, zip_map_fst_snd]

theorem remove_samples_source_eq_model (s : OS) (hs : s.samples = none → s.live = none) :
    Gen.OrderedOps.remove_samples s.samples s.rows s.live s.nested s.thr s.strict s.replAll =
      (removeSamples s).map (fun p => (p.1.samples, p.1.rows, p.1.live, p.1.nested, p.2)) := by
  unfold Gen.OrderedOps.remove_samples removeSamples
  cases hl : s.live with
  | none => cases s.samples <;> cases s.replAll <;> rfl
  | some l =>
    cases hsm : s.samples with
    | none => rw [hs hsm] at hl; cases hl
    | some smp =>
      cases s.replAll
      · have hk : keys (fancySmp smp l) = l.map (fun i => (smp.getD i default).key) := by
          rw [keys, fancySmp, List.map_map]; rfl
        simp only [Bool.false_eq_true, if_false, countBelowOpt, hk, List.isEmpty_map]
        generalize (if l.isEmpty = true then some 0 else Option.map _ s.thr : Option Nat) = n
        cases n <;> rfl
      · rfl

theorem finalise_source_eq_model (s : OS) (hs : s.samples = none → s.live = none) :
    Gen.OrderedOps.finalise s.samples s.rows s.live s.nested s.thr s.strict s.replAll =
      (Ordered.finalise s).map fieldsOf := by
  unfold Gen.OrderedOps.finalise Ordered.finalise
  cases hl : s.live with
  | none => cases s.samples <;> simp [Except.map]
  | some l =>
    cases hsm : s.samples with
    | none => rw [hs hsm] at hl; cases hl
    | some smp => simp [Except.map, fieldsOf]

theorem countBelow_le (t : Int) (ks : List Int) : countBelow t ks ≤ ks.length := by
  unfold countBelow; exact List.length_filter_le _ _

theorem take_drop_range (m n : Nat) (h : n ≤ m) :
    (List.range m).take n = List.range n ∧ (List.range m).drop n = List.range' n (m - n) := by
  constructor
  · rw [List.take_range, Nat.min_eq_left h]
  · rw [List.range_eq_range', List.drop_range']; simp

theorem add_samples_source_eq_model (s : OS) (b : List (Smp × Nat)) :
    Gen.OrderedOps.add_samples s.samples s.rows s.live s.nested s.thr s.strict s.replAll (b.map (·.1)) (b.map (·.2)) =
      (addSamples s b).map fieldsOf := by
  unfold Gen.OrderedOps.add_samples addSamples
  rw [zip_map_fst_snd]
  cases s.samples with
  | none => rfl
  | some old =>
    have hidx : (keys ((sortBatch b).map (·.1))).map (ssl (keys old))
        = ((sortBatch b).map (·.1)).map (fun v => ssl (keys old) v.key) := List.map_map
    dsimp only
    rw [hidx]
    generalize sortBatch b = sb
    generalize List.map (fun v : Smp => ssl (keys old) v.key) (sb.map (·.1)) = idx
    generalize insertMany old idx (List.map (fun x => x.1) sb) 0 = smp'
    generalize insertMany s.rows idx (List.map (fun x => x.2) sb) 0 = rows'
    cases s.strict
    · simp only [Bool.false_eq_true, if_false, inverseIndices]
      generalize shiftIdx idx 0 = ni
      cases ni.isEmpty
      · generalize complement smp'.length ni = oi
        -- the source tests `len(old_indices) != …` and `live_points_indices is None`; once both are decided the two
        -- sides are the same value
        cases s.live <;> simp only [bne_iff_ne, ne_eq, Option.isNone_none, Option.isNone_some, if_true,
          Bool.false_eq_true, if_false] <;> split <;> rfl
      · rfl
    · simp only [if_true, countBelowOpt, keys, List.isEmpty_map]
      cases he : smp'.isEmpty
      · cases s.thr with
        | none => rfl
        | some t =>
          obtain ⟨h1, h2⟩ := take_drop_range smp'.length _
            (by simpa using countBelow_le t (smp'.map (·.key)))
          simp only [Bool.false_eq_true, if_false, Option.map_some, h1, h2]
          rfl
      · rw [List.isEmpty_iff.mp he]; rfl

end NessaiVerif.C04
