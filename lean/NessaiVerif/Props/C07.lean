import NessaiVerif.Proofs.ReparamCombine
import NessaiVerif.Proofs.ReparamReal
import NessaiVerif.Gen.RescaleTx
/-
C07 — reparameterisations are exact bijections with consistent Jacobians and priors.   PARTIAL (see NOT SHOWN at the end of section `Real`).
Stage 1 (any linearly ordered field `K`, so ℚ — what the driver executes — and ℝ): the affine
family.  Stage 2 (ℝ, section `Real`): the transcendental maps; their tie to the NumPy code is the numeric oracle of the check.
Jacobians are multiplicative factors `J` in stage 1; the code stores
`log J`.  "J_fwd · J_inv = 1" says "the two log-Jacobians are negatives of each other" only when both factors are
positive — the single-parameter `rtb_roundtrip_jac_inv`, `rtb_lawful_on_prior_box` and `rtb_lawful_after_update`
therefore also conclude `0 < J` (under `b0 < b1`), and `rtb_jac_fails_without_ordered_bounds` records what happens otherwise
(the code takes the log of a negative number: NaN).  `Lawful` asks for the product only, so `combined_jac` and
`proposal_rescale_roundtrip` (like `ss_roundtrip_jac_inv` and `utils_roundtrip_jac_inv`) conclude `J · J' = 1` and nothing
about signs.  Log-Jacobians are used in stage 2.
-/
namespace NessaiVerif.C07
open NessaiVerif.Reparam

section Exact
variable {K : Type} [Field K] [LinearOrder K] [IsStrictOrderedRing K]

/-- ScaleAndShift with a non-zero scale (given, or estimated by `update`): mapping forward and back returns the
original value and the two Jacobian factors (`1/|s|`, `|s|`: positive) multiply to one. -/
theorem ss_roundtrip_jac_inv (r : SS K) (s x : K) (hs : r.scale = some s) (h0 : s ≠ 0) :
    ∃ y j j', ssFwd r x = .ok (y, j) ∧ ssInv r y = .ok (x, j') ∧ j * j' = 1 := by
  have hs' : absK s ≠ 0 := by rw [absK_eq]; exact abs_ne_zero.mpr h0
  unfold ssFwd ssInv
  rw [hs]
  refine ⟨_, _, absK s, rfl, ?_, one_div_mul_cancel hs'⟩
  cases r.shift with
  | none => simp only [div_mul_cancel₀ _ h0]
  | some sh => simp only [div_mul_cancel₀ _ h0, sub_add_cancel]

example := ss_roundtrip_jac_inv (K := ℚ) ⟨some (-4), some 1, false, false⟩ (-4) 3 rfl (by norm_num)

example : (ssFwd (⟨some 4, some 1, false, false⟩ : SS Rat) 3).toOption = some (1 / 2, 1 / 4) ∧
    (ssInv (⟨some 4, some 1, false, false⟩ : SS Rat) (1 / 2)).toOption = some (3, 4) := by decide +kernel

/-- the guard `scale ≠ 0` is needed: a zero scale (e.g. `np.std` of constant data after `update`) collapses every point -/
theorem ss_roundtrip_fails_without :
    ∃ y j, ssFwd (⟨some 0, none, true, false⟩ : SS Rat) 3 = .ok (y, j) ∧
      (ssInv (⟨some 0, none, true, false⟩ : SS Rat) y).toOption ≠ some (3, 1) :=
  ⟨0, 0, by decide +kernel, by decide +kernel⟩

/-- ScaleAndShift: the reported factor `1/|scale|` does not depend on the point and is the absolute slope of the map,
`|f x − f y| = J·|x − y|`, i.e. exactly `|det J|` of the one-dimensional map. -/
theorem ss_jac_is_derivative (r : SS K) (s : K) (hs : r.scale = some s) (h0 : s ≠ 0) :
    ∃ J : K, 0 ≤ J ∧ ∀ x y, ∃ fx fy, ssFwd r x = .ok (fx, J) ∧ ssFwd r y = .ok (fy, J) ∧ |fx - fy| = J * |x - y| := by
  refine ⟨1 / |s|, by positivity, fun x y => ?_⟩
  unfold ssFwd
  simp only [hs, absK_eq]
  refine ⟨_, _, rfl, rfl, ?_⟩
  cases r.shift with
  | none => rw [← sub_div, abs_div, one_div, div_eq_inv_mul]
  | some c => rw [← sub_div, sub_sub_sub_cancel_right, abs_div, one_div, div_eq_inv_mul]

example := ss_jac_is_derivative (K := ℚ) ⟨some (-2), none, false, false⟩ (-2) rfl (by norm_num)

/-- `update` of the z-score variant sets scale := std(data) and shift := mean(data): with the data 4, 4, 6, 6 the
model accepts the witness 1 for the square root. -/
theorem ss_update_example :
    (ssUpdate (⟨some 1, some 0, true, true⟩ : SS Rat) [4, 4, 6, 6] 1).map (fun r => (r.scale, r.shift)) = some (some 1, some 5) := by
  decide +kernel

/-- `rescale_zero_to_one` / `inverse_rescale_zero_to_one` and `rescale_minus_one_to_one` / inverse (`nessai/utils/rescaling.py`)
are mutually inverse with reciprocal Jacobian factors whenever `xmin ≠ xmax`. -/
theorem utils_roundtrip_jac_inv (a b x : K) (h : a ≠ b) :
    ((inverseRescaleZeroToOne (rescaleZeroToOne x a b).1 a b).1 = x ∧
     (rescaleZeroToOne x a b).2 * (inverseRescaleZeroToOne (rescaleZeroToOne x a b).1 a b).2 = 1) ∧
    ((inverseRescaleMinusOneToOne (rescaleMinusOneToOne x a b).1 a b).1 = x ∧
     (rescaleMinusOneToOne x a b).2 * (inverseRescaleMinusOneToOne (rescaleMinusOneToOne x a b).1 a b).2 = 1) :=
  ⟨z2o_lawful a b x h, m2o_lawful a b x h⟩

example := utils_roundtrip_jac_inv (2 : ℚ) 6 3 (by norm_num)

example : (rescaleMinusOneToOne (3 : Rat) 2 6, inverseRescaleMinusOneToOne (-1 / 2 : Rat) 2 6) = ((-1 / 2, 1 / 2), (3, 2)) := by
  decide +kernel

/-- **Round trip and Jacobian consistency of RescaleToBounds** for one parameter, any state (before or after `update`), any
rescale bounds / offset / inversion type / edge decision / sign bit, any pre- and post-rescaling hooks, under the exact
regularity guard: bounds in order (`b0 < b1`), target interval non-degenerate when no inversion is configured, the
reflected value on the kept side of the edge, hooks lawful with positive factors at the points where they are applied.
Conclusion: the inverse returns the point, `J_fwd · J_inv = 1`, and both factors are strictly positive — so the two
log-Jacobians the code reports are finite and negatives of each other. -/
theorem rtb_roundtrip_jac_inv (r : Rtb K) (neg : Bool) (x : K) (hb : r.b0 < r.b1) (hf : r.FactorOK)
    (hok : r.ReflectOK (r.preF x).1) (hh : r.HooksOK neg x) (hp : r.HooksPos neg x) :
    (rtbInv r (rtbFwd r neg x).1).1 = x ∧ (rtbFwd r neg x).2 * (rtbInv r (rtbFwd r neg x).1).2 = 1 ∧
    0 < (rtbFwd r neg x).2 ∧ 0 < (rtbInv r (rtbFwd r neg x).1).2 :=
  rtb_lawful_pos r neg x hb hf hok hh hp

/-- applied: reflection about the lower edge with the sign bit set, bounds [1/4, 3/4], offset 1/2, at x = 1 -/
example :=
  rtb_roundtrip_jac_inv (K := ℚ) ⟨0, 1, 0, 1, some .split, true, none, none, false, 1 / 2, -1 / 4, 1 / 4, .lower⟩ true 1
    (by norm_num) (fun h => by cases h)
    (fun _ => by rw [if_neg (by decide)]; simp only [Rtb.unit, Rtb.preF]; norm_num)
    (hooksOK_none rfl rfl) (hooksPos_none rfl rfl)

/-- non-vacuity on the executable model: offset, update to data [1/4, 3/4], reflection about the upper edge with the sign bit set -/
example :
    let r := rtbDetect (rtbUpdate (rtbMk (0 : Rat) 1 none (some .split) true true true none none false true) [1 / 4, 3 / 4]) .upper
    rtbFwd r true (3 / 4) = (0, 2) ∧ rtbInv r 0 = (3 / 4, 1 / 2) ∧ rtbFwd r true (1 / 2) = (-1 / 2, 2) ∧
      rtbInv r (-1 / 2) = (1 / 2, 1 / 2) := by decide +kernel

/-- the hypothesis `b0 < b1` (rather than `b0 ≠ b1`) is needed for the *Jacobian* clause: with a decreasing pre-rescaling
`x ↦ −x` (a lawful hook pair) the bounds come out reversed, the round trip still holds, but the reported factor is negative:
the code's `log_j` is the log of a negative number (NaN).  (`FlowProposal.verify_rescaling` refuses this configuration.) -/
theorem rtb_jac_fails_without_ordered_bounds :
    let r := rtbMk (0 : Rat) 1 none none false false true (some (Hook.affine (-1) 0)) none false false
    r.b1 < r.b0 ∧ (rtbInv r (rtbFwd r false (1 / 4)).1).1 = 1 / 4 ∧ (rtbFwd r false (1 / 4)).2 < 0 := by decide +kernel

/-- **Every point of the prior box, before any update**: for the state the constructor builds (any rescale bounds with distinct
ends, offset on/off, any inversion type, any edge decision, any sign bit) the round trip, `J_fwd · J_inv = 1` and positivity of
both factors hold at every `x ∈ [p0, p1]` — both bounds included. -/
theorem rtb_lawful_on_prior_box (p0 p1 : K) (rb : Option (K × K)) (inv : Option InvType) (oinv det off upd prior : Bool)
    (r0 : Rtb K) (hp : p0 < p1) (hrb : ∀ b, rb = some b → b.1 ≠ b.2)
    (h : rtbInit p0 p1 rb inv oinv det off upd none none false prior = .ok r0)
    (test : Edge) (neg : Bool) (x : K) (hx0 : p0 ≤ x) (hx1 : x ≤ p1) :
    (rtbInv (rtbDetect r0 test) (rtbFwd (rtbDetect r0 test) neg x).1).1 = x ∧
    (rtbFwd (rtbDetect r0 test) neg x).2 * (rtbInv (rtbDetect r0 test) (rtbFwd (rtbDetect r0 test) neg x).1).2 = 1 ∧
    0 < (rtbFwd (rtbDetect r0 test) neg x).2 ∧
    0 < (rtbInv (rtbDetect r0 test) (rtbFwd (rtbDetect r0 test) neg x).1).2 := by
  rw [rtbInit_ok h, rtbDetect_eq]
  -- the constructor's state has no hooks and bounds `[p0, p1] − offset` by definition; left: `FactorOK` and the side
  refine rtb_lawful_of_bounds _ neg x p0 p1 hp rfl rfl rfl rfl (fun hn => ?_) (fun _ => ?_)
  · change inv = none at hn
    subst hn
    cases rb with
    | none => show (-1 : K) ≠ 1; norm_num
    | some b => exact hrb b rfl
  · split
    · exact hx1
    · exact hx0

/-- applied: duplicate inversion with edge detection, offset, edge decision `upper`, sign bit set, at the upper prior bound -/
example :=
  rtb_lawful_on_prior_box (0 : ℚ) 4 none (some .duplicate) true true true true true
    (rtbMk 0 4 none (some .duplicate) true true true none none false true)
    (by norm_num) (fun b hb => by cases hb) rfl .upper true 4 (by norm_num) (by norm_num)

/-- **After the data-dependent update** (bounds := data min / max): round trip, `J_fwd · J_inv = 1` and positive factors hold at
*every* point when nothing is reflected, and at the points on the data range of the reflecting side when an edge is inverted. -/
theorem rtb_lawful_after_update (r0 : Rtb K) (d : K) (ds : List K) (hupd : r0.update = true)
    (hpre : r0.pre = none) (hpost : r0.post = none) (hf : r0.FactorOK)
    (hmM : minL d ds < maxL d ds) (test : Edge) (neg : Bool) (x : K)
    (hside : (rtbDetect (rtbUpdate r0 (d :: ds)) test).reflects →
      if (rtbDetect (rtbUpdate r0 (d :: ds)) test).edge = .upper then x ≤ maxL d ds else minL d ds ≤ x) :
    let r := rtbDetect (rtbUpdate r0 (d :: ds)) test
    (rtbInv r (rtbFwd r neg x).1).1 = x ∧ (rtbFwd r neg x).2 * (rtbInv r (rtbFwd r neg x).1).2 = 1 ∧
    0 < (rtbFwd r neg x).2 ∧ 0 < (rtbInv r (rtbFwd r neg x).1).2 := by
  have hu : rtbUpdate r0 (d :: ds) =
      { r0 with b0 := minL d ds - r0.offset, b1 := maxL d ds - r0.offset, edge := .unset } := by
    simp only [rtbUpdate, hupd, if_true, Rtb.preF, hpre]
  rw [rtbDetect_eq] at hside ⊢
  rw [hu] at hside ⊢
  exact rtb_lawful_of_bounds _ neg x _ _ hmM hpre hpost rfl rfl hf hside

/-- applied: split inversion, data 1/4, 3/4, 1/2, edge `lower`, the point 7/8 (above the data maximum: not the reflecting side) -/
example :=
  rtb_lawful_after_update (K := ℚ) (rtbMk 0 1 none (some .split) true false true none none false false) (1 / 4) [3 / 4, 1 / 2]
    rfl rfl rfl (fun h => by cases h) (by decide +kernel) .lower true (7 / 8) (fun _ => by decide +kernel)

/-- the side condition of `rtb_lawful_after_update` is needed — and the unchanged code violates the property here: after
`update` with data in [1/4, 3/4], edge `lower`, the prior-box point 1/8 maps to −1/4 and comes back as 3/8. -/
theorem rtb_roundtrip_fails_without_reflect_guard :
    let r := rtbDetect (rtbUpdate (rtbMk (0 : Rat) 1 none (some .split) true false true none none false false) [1 / 4, 3 / 4]) .lower
    rtbFwd r false (1 / 8) = (-1 / 4, 2) ∧ rtbInv r (-1 / 4) = (3 / 8, 1 / 2) := by decide +kernel

/-- the bounds must be distinct (constant data after `update`): everything collapses -/
theorem rtb_roundtrip_fails_without_distinct_bounds :
    let r := rtbUpdate (rtbMk (0 : Rat) 1 none none false false true none none false false) [1 / 2, 1 / 2]
    (rtbInv r (rtbFwd r false (1 / 4)).1).1 ≠ 1 / 4 := by decide +kernel

/-- **The reported Jacobian is the derivative.**  With bounds in order and hooks whose factor is their absolute slope (none, or
affine), the factor reported by `reparameterise` is one non-negative constant `J` — it does not depend on the point — and
`|f x − f y| = J·|x − y|` for all points: `J` is exactly `|det J|` of the map, the allowed constant is zero. -/
theorem rtb_jac_is_derivative (r : Rtb K) (neg : Bool) (hb : r.b0 < r.b1) (hpre : AffineJ r.preF) (hpost : AffineJ r.postF) :
    ∃ J : K, 0 ≤ J ∧ (∀ x, (rtbFwd r neg x).2 = J) ∧ ∀ x y, |(rtbFwd r neg x).1 - (rtbFwd r neg y).1| = J * |x - y| :=
  (hpre.comp (rtbCore_affineJ r neg hb)).comp hpost

/-- applied: an affine pre-rescaling `2x + 1`, no post-rescaling, reflection about the upper edge -/
example :=
  rtb_jac_is_derivative (K := ℚ) ⟨0, 1, 0, 1, some .duplicate, true, some (Hook.affine 2 1), none, false, 0, 1, 3, .upper⟩ true
    (by norm_num) (Hook.affine_affineJ 2 1) AffineJ.id

end Exact

section Combine
variable {K : Type} [Field K]

/-- a one-parameter object built from scalar maps that are mutually inverse with reciprocal factors on `D` is `Lawful`:
it reads only its own parameter, writes only its own prime parameter, leaves every other field of `x` and `x_prime`
untouched, and round-trips on `D`.  (RescaleToBounds, ScaleAndShift and Null parameters are such objects.) -/
theorem scalar_object_lawful {ι κ : Type} [DecidableEq ι] [DecidableEq κ] (p : ι) (pp : κ) (f g : K → K × K) (D : K → Prop)
    (h : ∀ a, D a → (g (f a).1).1 = a ∧ (f a).2 * (g (f a).1).2 = 1) :
    Lawful (ofScalar p pp f g) (fun i => i = p) (fun k => k = pp) (fun x => D (x p)) :=
  ofScalar_lawful p pp f g D h

example := scalar_object_lawful (K := ℚ) (0 : ℕ) (0 : ℕ) (fun x => (x / 2, 1 / 2)) (fun y => (y * 2, 2)) (fun _ => True)
  (fun a _ => ⟨by ring, by norm_num⟩)

/-- NullReparameterisation is lawful everywhere -/
theorem null_lawful {ι : Type} [DecidableEq ι] (p : ι) :
    Lawful (nullReparam p : Reparam (ι → K) (ι → K) K) (fun i => i = p) (fun k => k = p) (fun _ => True) :=
  (ofScalar_lawful p p (fun x => (x, 1)) (fun x => (x, 1)) (fun _ => True) (fun a _ => ⟨rfl, by simp⟩))

/-- **Closure under composition**: applying lawful objects on disjoint parameters one after the other and inverting them in
the reverse order is lawful for the union of the parameters. -/
theorem lawful_compose {ι κ : Type} {r1 r2 : Reparam (ι → K) (κ → K) K} {P1 P2 : ι → Prop} {PP1 PP2 : κ → Prop}
    {D1 D2 : (ι → K) → Prop} (h1 : Lawful r1 P1 PP1 D1) (h2 : Lawful r2 P2 PP2 D2)
    (hP : ∀ i, ¬ (P1 i ∧ P2 i)) (hPP : ∀ k, ¬ (PP1 k ∧ PP2 k)) :
    Lawful (compose r1 r2) (fun i => P1 i ∨ P2 i) (fun k => PP1 k ∨ PP2 k) (fun x => D1 x ∧ D2 x) :=
  h1.comp h2 hP hPP

example := lawful_compose (null_lawful (K := ℚ) (0 : ℕ)) (null_lawful (K := ℚ) (1 : ℕ))
  (fun i h => by omega) (fun k h => by omega)

/-- **CombinedReparameterisation round trip** — any list of lawful objects on pairwise disjoint parameters, either value of
`reverse_order`: `inverse_reparameterise` applied to a fresh `x` and the forward `x_prime` returns every reparameterised
parameter, for every starting `x_prime` and every accumulated log-Jacobian. -/
theorem combined_roundtrip {ι κ : Type} (es : List (Entry ι κ K)) (h : AllLawful es) (rev : Bool)
    (x : ι → K) (xp : κ → K) (j : K) (y : ι → K) (j' : K) (hD : allD es x) (i : ι) (hi : unionP es i) :
    ((combined (es.map (·.rep)) rev).inv (y, ((combined (es.map (·.rep)) rev).fwd (x, xp, j)).2.1, j')).1 i = x i :=
  (combined_lawful es h rev).roundtrip x xp j y j' hD i hi

/-- applied to the two-object list `exampleEntries` (a Rescale on parameter 0, a Null on parameter 1), reversed order -/
example (x xp y : ℕ → ℚ) :=
  combined_roundtrip exampleEntries exampleEntries_lawful true x xp 1 y 1
    (exampleEntries_allD x)
    0 ⟨_, List.mem_cons_self, rfl⟩

/-- **CombinedReparameterisation Jacobians**: the accumulated forward and inverse factors multiply to one -/
theorem combined_jac {ι κ : Type} (es : List (Entry ι κ K)) (h : AllLawful es) (rev : Bool)
    (x : ι → K) (xp : κ → K) (y : ι → K) (hD : allD es x) :
    ((combined (es.map (·.rep)) rev).fwd (x, xp, 1)).2.2 *
      ((combined (es.map (·.rep)) rev).inv (y, ((combined (es.map (·.rep)) rev).fwd (x, xp, 1)).2.1, 1)).2.2 = 1 :=
  (combined_lawful es h rev).jac x xp y hD

example (x xp y : ℕ → ℚ) :=
  combined_jac exampleEntries exampleEntries_lawful false x xp y
    (exampleEntries_allD x)

/-- **Non-sampling fields (and every field no object owns) are untouched**: forward never changes `x`, changes `x_prime` only
at owned prime parameters; inverse never changes `x_prime`, changes `x` only at owned parameters. -/
theorem nonsampling_untouched {ι κ : Type} (es : List (Entry ι κ K)) (h : AllLawful es) (rev : Bool)
    (s : (ι → K) × (κ → K) × K) :
    ((combined (es.map (·.rep)) rev).fwd s).1 = s.1 ∧
    (∀ k, ¬ unionPP es k → ((combined (es.map (·.rep)) rev).fwd s).2.1 k = s.2.1 k) ∧
    ((combined (es.map (·.rep)) rev).inv s).2.1 = s.2.1 ∧
    (∀ i, ¬ unionP es i → ((combined (es.map (·.rep)) rev).inv s).1 i = s.1 i) :=
  let L := combined_lawful es h rev
  ⟨L.fwd_x s, L.fwd_frame s, L.inv_xp s, L.inv_frame s⟩

example (s : (ℕ → ℚ) × (ℕ → ℚ) × ℚ) := nonsampling_untouched exampleEntries exampleEntries_lawful true s

/-- **FlowProposal.rescale / inverse_rescale**: with any lawful combined reparameterisation and non-sampling names that no
object owns, the reparameterised parameters come back, the non-sampling fields are copied to `x_prime` and back unchanged,
and the Jacobian factors of `rescale` and `inverse_rescale` multiply to one (so, where both are positive, the two `log_J` are
negatives of each other). -/
theorem proposal_rescale_roundtrip {ι : Type} [DecidableEq ι] (c : Reparam (ι → K) (ι → K) K) (P PP : ι → Prop)
    (D : (ι → K) → Prop) (hc : Lawful c P PP D) (ns : List ι) (hnsP : ∀ p ∈ ns, ¬ P p) (hnsPP : ∀ p ∈ ns, ¬ PP p)
    (e e' x : ι → K) (hD : D x) :
    (∀ i, P i → (proposalInverseRescale c ns e' (proposalRescale c ns e x).1).1 i = x i) ∧
    (∀ p ∈ ns, (proposalRescale c ns e x).1 p = x p ∧
               (proposalInverseRescale c ns e' (proposalRescale c ns e x).1).1 p = x p) ∧
    (proposalRescale c ns e x).2 * (proposalInverseRescale c ns e' (proposalRescale c ns e x).1).2 = 1 := by
  have agree : ∀ k, PP k → (proposalRescale c ns e x).1 k = (c.fwd (x, e, 1)).2.1 k := fun k hk => by
    rw [hc.proposalRescale_apply, if_neg fun h => hnsPP k h hk]
  have hcopy : ∀ p ∈ ns, (proposalRescale c ns e x).1 p = x p := fun p hp => by
    rw [hc.proposalRescale_apply, if_pos hp]
  refine ⟨fun i hi => ?_, fun p hp => ⟨hcopy p hp, ?_⟩, hc.jac_of_agree hD agree⟩
  · rw [hc.proposalInverseRescale_apply, if_neg fun h => hnsP i h hi]
    exact hc.roundtrip_of_agree hD agree hi
  · rw [hc.proposalInverseRescale_apply, if_pos hp]
    exact hcopy p hp

/-- applied: a Null object on field 0, non-sampling fields 7, 8, 9 (logP, logL, it) -/
example (e e' x : ℕ → ℚ) :=
  proposal_rescale_roundtrip (nullReparam (0 : ℕ)) _ _ _ (null_lawful (K := ℚ) 0) [7, 8, 9]
    (fun p hp => by simp only [List.mem_cons, List.not_mem_nil, or_false] at hp; omega)
    (fun p hp => by simp only [List.mem_cons, List.not_mem_nil, or_false] at hp; omega) e e' x trivial

example : (proposalRescale (nullReparam (0 : Nat)) [7] (fun _ => (0 : Rat)) (fun i => if i = 0 then 5 else if i = 7 then 3 else 0)).1 7 = 3 := by
  decide +kernel

end Combine

section Prior
variable {K : Type} [Field K] [LinearOrder K] [IsStrictOrderedRing K]

/-- **Support of the prime prior, no reflection** (no inversion configured, any state before or after `update`, any target
interval `r0 < r1`): the bounds `update_prime_prior_bounds` stores are exactly the image of the (pre-rescaled) prior interval
under the forward map: every prior point lands inside, every point inside is hit. -/
theorem prime_prior_support_plain (r : Rtb K) (hp : r.hasPrimePrior = true) (hinv : r.inversion = none)
    (hb : r.b0 < r.b1) (hr : r.r0 < r.r1) :
    ∃ lo hi, rtbPrimeBounds r = some (some (lo, hi)) ∧ IsImage r lo hi := by
  have hg : r.gain = r.r1 - r.r0 := by simp only [Rtb.gain, hinv, Rtb.factor, ptp_of_le hr.le]
  refine ⟨r.kept r.P0, r.kept r.P1, ?_, ?_⟩
  · rw [primeBounds_eq r hp]
    -- the one real step: the stored `scale * d / w + shift` is `kept`'s `gain * (d / w) + icpt` (`mul_div_assoc`)
    simp only [determineRescaledBounds, hinv, hb.ne, Rtb.kept, Rtb.unit, Rtb.icpt, Rtb.shift, hg, mul_div_assoc, ↓reduceIte,
      Option.isSome_none, Bool.not_false, Bool.false_eq_true]
  · rw [isImage_iff]
    simp only [Rtb.sgn, hinv, one_mul]
    exact (r.kept_image hb).1 (by rw [hg]; exact sub_pos.mpr hr)

/-- applied: prior [0, 4], bounds updated to the data range [1, 3], target interval [−3, 7] -/
example := prime_prior_support_plain (K := ℚ) ⟨0, 4, -3, 7, none, true, none, none, true, 0, 1, 3, .unset⟩ rfl rfl
  (by norm_num) (by norm_num)

/-- the same when inversion is configured but the edge decision is "none" (`False`) or not yet taken -/
theorem prime_prior_support_inversion_off (r : Rtb K) (hp : r.hasPrimePrior = true) (t : InvType)
    (hinv : r.inversion = some t) (he : r.edge = .unset ∨ r.edge = .off) (hb : r.b0 < r.b1) :
    ∃ lo hi, rtbPrimeBounds r = some (some (lo, hi)) ∧ IsImage r lo hi := by
  have hg : r.gain = 2 ∧ r.icpt = -1 ∧ ∀ neg, r.sgn neg = 1 := by
    rcases he with he | he <;> simp only [Rtb.gain, Rtb.icpt, Rtb.sgn, hinv, he, implies_true, and_self]
  refine ⟨r.kept r.P0, r.kept r.P1, ?_, ?_⟩
  · rw [primeBounds_eq r hp]
    rcases he with he | he <;>
      -- `sub_eq_add_neg` brings the stored `2 * l - 1` and `kept`'s `2 * u + -1` to one form
      simp only [determineRescaledBounds, hb.ne, ↓reduceIte, hinv, Option.isSome_some, Bool.not_true, Bool.false_eq_true, he,
        two_eq, sub_eq_add_neg, one_mul, add_zero, Rtb.kept, hg, Rtb.unit]
  · rw [isImage_iff]
    simp only [hg.2.2, one_mul]
    exact (r.kept_image hb).1 (by rw [hg.1]; exact two_pos)

example := prime_prior_support_inversion_off (K := ℚ) ⟨0, 4, 0, 1, some .split, true, none, none, true, 0, 1, 3, .off⟩ rfl .split rfl
  (Or.inr rfl) (by norm_num)

/-- reflection about the lower edge, the lower prior bound on the edge (the state before any update): the stored bounds
`(−upper, upper)` are the image of the prior interval over both sign choices -/
theorem prime_prior_support_lower (r : Rtb K) (hp : r.hasPrimePrior = true) (t : InvType) (hinv : r.inversion = some t)
    (he : r.edge = .lower) (hb : r.b0 < r.b1) (hedge : r.P0 - r.offset = r.b0) :
    ∃ lo hi, rtbPrimeBounds r = some (some (lo, hi)) ∧ IsImage r lo hi := by
  have hk : ∀ y, r.kept y = r.unit y := fun y => by simp only [Rtb.kept, Rtb.gain, Rtb.icpt, hinv, he, one_mul, add_zero]
  -- `hedge` puts the lower end of the unsigned image at `0`, as `ImageOn.reflect` requires
  have h0 : r.kept r.P0 = 0 := by rw [hk, Rtb.unit, hedge, sub_self, zero_div]
  refine ⟨-r.kept r.P1, r.kept r.P1, ?_, ?_⟩
  · rw [primeBounds_eq r hp]
    simp only [determineRescaledBounds, hb.ne, ↓reduceIte, hinv, Option.isSome_some, Bool.not_true, Bool.false_eq_true, he,
      one_mul, add_zero, hk, Rtb.unit]
  · rw [isImage_iff]
    simp only [Rtb.sgn, hinv, he]
    exact .reflect (h0 ▸ (r.kept_image hb).1 (by simp only [Rtb.gain, hinv, he]; exact one_pos))

example := prime_prior_support_lower (K := ℚ) ⟨0, 4, 0, 1, some .split, true, none, none, true, 2, -2, 2, .lower⟩ rfl .split rfl rfl
  (by norm_num) (by simp only [Rtb.P0, Rtb.preF]; norm_num)

/-- reflection about the upper edge, the upper prior bound on the edge: stored bounds `(lower − 1, 1 − lower)` -/
theorem prime_prior_support_upper (r : Rtb K) (hp : r.hasPrimePrior = true) (t : InvType) (hinv : r.inversion = some t)
    (he : r.edge = .upper) (hb : r.b0 < r.b1) (hedge : r.P1 - r.offset = r.b1) :
    ∃ lo hi, rtbPrimeBounds r = some (some (lo, hi)) ∧ IsImage r lo hi := by
  have hk : ∀ y, r.kept y = 1 - r.unit y := fun y => by
    simp only [Rtb.kept, Rtb.gain, Rtb.icpt, hinv, he, neg_one_mul]; ring
  have h0 : r.kept r.P1 = 0 := by rw [hk, Rtb.unit, hedge, div_self (sub_pos.mpr hb).ne', sub_self]
  refine ⟨-r.kept r.P0, r.kept r.P0, ?_, ?_⟩
  · rw [primeBounds_eq r hp]
    simp only [determineRescaledBounds, hb.ne, ↓reduceIte, hinv, Option.isSome_some, Bool.not_true, Bool.false_eq_true, he,
      one_mul, add_zero, hk, Rtb.unit, neg_sub]
  · rw [isImage_iff]
    simp only [Rtb.sgn, hinv, he]
    exact .reflect (h0 ▸ (r.kept_image hb).2 (by simp only [Rtb.gain, hinv, he]; exact neg_one_lt_zero))

example := prime_prior_support_upper (K := ℚ) ⟨0, 4, 0, 1, some .duplicate, true, none, none, true, 2, -2, 2, .upper⟩ rfl .duplicate
  rfl rfl (by norm_num) (by simp only [Rtb.P1, Rtb.preF]; norm_num)

example :
    let r := rtbDetect (rtbMk (0 : Rat) 4 none (some .duplicate) true true true none none false true) .upper
    r.hasPrimePrior = true ∧ r.b0 < r.b1 ∧ r.P1 - r.offset = r.b1 ∧ rtbPrimeBounds r = some (some (-1, 1)) := by
  decide +kernel

omit [Field K] [IsStrictOrderedRing K] in
/-- `log_uniform_prior` is finite exactly on the closed interval of the stored bounds -/
theorem prime_prior_indicator (x lo hi : K) : inUniformSupport x lo hi = true ↔ lo ≤ x ∧ x ≤ hi := by
  unfold inUniformSupport; simp

/-- **Value of the prime prior = prior / J up to a constant** (affine family, uniform original prior of any density `c ≠ 0` on
the box, no hooks): whenever the stored bounds are the image (the four theorems above), the offered prime prior — the
indicator of the stored bounds, `exp(log_uniform_prior)` — equals `k · c / J(x)` at the image of every prior point, with one
constant `k` for all points and both sign bits: `J` is a positive constant, so `prior / J` is constant on the image. -/
theorem prime_prior_value (r : Rtb K) (lo hi : K) (himg : IsImage r lo hi) (hb : r.b0 < r.b1) (hf : r.FactorOK)
    (hpre : r.pre = none) (hpost : r.post = none) (c : K) (hc : c ≠ 0) :
    ∃ k : K, ∀ x neg, r.p0 ≤ x → x ≤ r.p1 →
      uniformPriorFactor (rtbFwd r neg x).1 lo hi = k * (c / (rtbFwd r neg x).2) := by
  have hJ : (rtbCore r false 0).2 ≠ 0 := (rtbCore_jac_pos r false 0 hb hf).ne'
  refine ⟨(rtbCore r false 0).2 / c, fun x neg h0 h1 => ?_⟩
  have hP0 : r.P0 = r.p0 := by unfold Rtb.P0 Rtb.preF; rw [hpre]
  have hP1 : r.P1 = r.p1 := by unfold Rtb.P1 Rtb.preF; rw [hpre]
  have hfwd : rtbFwd r neg x = ((rtbCore r neg x).1, 1 * (rtbCore r neg x).2 * 1) := by
    unfold rtbFwd Rtb.preF Rtb.postF; rw [hpre, hpost]
  have hs := (prime_prior_indicator _ lo hi).mpr (himg.1 x neg (hP0 ▸ h0) (hP1 ▸ h1))
  rw [hfwd, uniformPriorFactor, hs, if_pos rfl, one_mul, mul_one, rtbCore_jac_const r neg x 0]
  field_simp

/-- applied to the image obtained from `prime_prior_support_plain`, prior density 1/4 on [0, 4] -/
example : ∃ lo hi k : ℚ, ∀ x neg, (0 : ℚ) ≤ x → x ≤ 4 →
    uniformPriorFactor (rtbFwd ⟨0, 4, -3, 7, none, true, none, none, true, 0, 1, 3, .unset⟩ neg x).1 lo hi
      = k * ((1 / 4) / (rtbFwd ⟨0, 4, -3, 7, none, true, none, none, true, 0, 1, 3, .unset⟩ neg x).2) := by
  obtain ⟨lo, hi, _, himg⟩ := prime_prior_support_plain (K := ℚ) ⟨0, 4, -3, 7, none, true, none, none, true, 0, 1, 3, .unset⟩
    rfl rfl (by norm_num) (by norm_num)
  obtain ⟨k, hk⟩ := prime_prior_value _ lo hi himg (by norm_num) (fun _ => by norm_num) rfl rfl (1 / 4) (by norm_num)
  exact ⟨lo, hi, k, hk⟩

/-- edge decision `both` is *not* covered, and the unchanged code breaks the property there: `_apply_inversion` treats it like
`lower` (image [−1, 1]) but `determine_rescaled_bounds` stores (−1/2, 3/2): the image −3/4 of the prior point 3/4 is outside. -/
theorem prime_prior_support_both_fails :
    let r := rtbDetect (rtbMk (0 : Rat) 1 none (some .duplicate) false false true none none false true) .both
    rtbPrimeBounds r = some (some (-1 / 2, 3 / 2)) ∧ (rtbFwd r true (3 / 4)).1 = -3 / 4 ∧
      inUniformSupport (rtbFwd r true (3 / 4)).1 (-1 / 2) (3 / 2) = false := by decide +kernel

/-- the hypothesis `r0 < r1` is needed: with reversed rescale bounds `[1, −1]` the map still sends the box onto [1, 3]
(factor = `ptp` = 2) but the stored bounds are (1, −1), an empty support -/
theorem prime_prior_support_fails_without_ordered_rescale_bounds :
    let r := rtbMk (0 : Rat) 1 (some (1, -1)) none false false true none none false true
    rtbPrimeBounds r = some (some (1, -1)) ∧ (rtbFwd r false 1).1 = 3 := by decide +kernel

/-- what the hypothesis "prior bound on the edge" of `prime_prior_support_lower` excludes: after `update` to [1/2, 3/4] the stored
bounds are (−2, 2) but the map is no longer injective on the box (3/4 and 1/4 share the image 1) -/
theorem prime_prior_support_lower_fails_after_update :
    let r := rtbDetect (rtbUpdate (rtbMk (0 : Rat) 1 none (some .split) true false true none none false true) [1 / 2, 3 / 4]) .lower
    rtbPrimeBounds r = some (some (-2, 2)) ∧ (rtbFwd r false 0).1 = -2 ∧ (rtbFwd r false (3 / 4)).1 = 1 ∧
      (rtbFwd r true (1 / 4)).1 = 1 := by decide +kernel

end Prior

section Real
open Real

/-- logit / sigmoid (`eps=None`): on the open unit interval the sigmoid undoes the logit, the two log-Jacobians are
negatives of each other, and the logit has derivative `exp(log_j)`: the reported log-Jacobian is `log|f'|` exactly. -/
theorem logit_roundtrip_jac (x : ℝ) (h0 : 0 < x) (h1 : x < 1) :
    (sigmoidLJ (logitLJ 0 x).1).1 = x ∧ (logitLJ 0 x).2 + (sigmoidLJ (logitLJ 0 x).1).2 = 0 ∧
    HasDerivAt (fun t => (logitLJ 0 t).1) (exp (logitLJ 0 x).2) x :=
  ⟨sigmoid_logit x h0 h1, logit_sigmoid_logJ x h0 h1, logit_hasDerivAt x h0 h1⟩

example := logit_roundtrip_jac (1 / 3) (by norm_num) (by norm_num)

/-- with a clamp `eps` the function coincides with the unclamped logit on `[eps, 1 − eps]` (outside it is constant,
hence not injective — RescaleToBounds never passes `eps`) -/
theorem logit_eps_partial (eps x : ℝ) (h0 : eps ≤ x) (h1 : x ≤ 1 - eps) : logitLJ eps x = logitLJ 0 x := by
  unfold logitLJ
  by_cases he : eps = 0
  · simp [he]
  · simp only [ne_eq, he, not_false_eq_true, if_true, not_true_eq_false, if_false]
    rw [min_eq_left h1, max_eq_right h0]

example := logit_eps_partial (1 / 4) (1 / 2) (by norm_num) (by norm_num)

/-- log / exp pre- and post-rescalings: mutually inverse (log needs `x > 0`), log-Jacobians negatives, derivatives
`exp(log_j)` -/
theorem log_exp_roundtrip_jac (x y : ℝ) (h0 : 0 < x) :
    ((expLJ (logLJ x).1).1 = x ∧ (logLJ x).2 + (expLJ (logLJ x).1).2 = 0) ∧
    ((logLJ (expLJ y).1).1 = y ∧ (expLJ y).2 + (logLJ (expLJ y).1).2 = 0) ∧
    HasDerivAt (fun t => (logLJ t).1) (exp (logLJ x).2) x ∧ HasDerivAt (fun t => (expLJ t).1) (exp (expLJ y).2) y :=
  ⟨exp_log_roundtrip x h0, log_exp_roundtrip y, log_hasDerivAt x h0, Real.hasDerivAt_exp y⟩

example := log_exp_roundtrip_jac 2 (-3) (by norm_num)

/-- the named hooks `log` / `exp` / `logit` (factor = exp of the log-Jacobian) satisfy the hook hypotheses of
`rtb_roundtrip_jac_inv` on their domains -/
theorem named_hooks_lawful (x : ℝ) :
    (0 < x → logHook.LawfulAt x) ∧ expHook.LawfulAt x ∧ (0 < x → x < 1 → logitHook.LawfulAt x) :=
  ⟨logHook_lawful x, expHook_lawful x, logitHook_lawful x⟩

example : logitHook.LawfulAt (1 / 2) := (named_hooks_lawful (1 / 2)).2.2 (by norm_num) (by norm_num)

/-- **The registered `logit` object end to end** (`get_reparameterisation("logit")`: rescale bounds [0, 1], `update_bounds=False`,
post-rescaling logit; `offset` either way): at every point of the *open* prior interval the round trip holds, the two Jacobian
factors are positive and reciprocal (log-Jacobians finite and negatives of each other), the forward map is differentiable
and the reported factor is the absolute value of its derivative. -/
theorem logit_object_lawful (p0 p1 x : ℝ) (off neg : Bool) (hp : p0 < p1) (h0 : p0 < x) (h1 : x < p1) :
    let r := namedPostObject logitHook p0 p1 off
    ((rtbInv r (rtbFwd r neg x).1).1 = x ∧ (rtbFwd r neg x).2 * (rtbInv r (rtbFwd r neg x).1).2 = 1 ∧
      0 < (rtbFwd r neg x).2 ∧ 0 < (rtbInv r (rtbFwd r neg x).1).2) ∧
    ∃ d, HasDerivAt (fun t => (rtbFwd r neg t).1) d x ∧ |d| = (rtbFwd r neg x).2 := by
  have hw : 0 < p1 - p0 := sub_pos.mpr hp
  have hz0 : 0 < (x - p0) / (p1 - p0) := div_pos (sub_pos.mpr h0) hw
  have hz1 : (x - p0) / (p1 - p0) < 1 := (div_lt_one hw).mpr (sub_lt_sub_right h1 p0)
  exact namedPostObject_lawful logitHook p0 p1 x off neg hp (logitHook_lawful _ hz0 hz1) (fun _ => exp_pos _)
    (logit_hasDerivAt _ hz0 hz1)

example := logit_object_lawful (-2) 6 5 true false (by norm_num) (by norm_num) (by norm_num)

/-- **The registered `log-rescale` object end to end**: the same on `(p0, p1]` — the upper bound, where the map is finite,
included; only the lower bound is singular. -/
theorem log_rescale_object_lawful (p0 p1 x : ℝ) (off neg : Bool) (hp : p0 < p1) (h0 : p0 < x) :
    let r := namedPostObject logHook p0 p1 off
    ((rtbInv r (rtbFwd r neg x).1).1 = x ∧ (rtbFwd r neg x).2 * (rtbInv r (rtbFwd r neg x).1).2 = 1 ∧
      0 < (rtbFwd r neg x).2 ∧ 0 < (rtbInv r (rtbFwd r neg x).1).2) ∧
    ∃ d, HasDerivAt (fun t => (rtbFwd r neg t).1) d x ∧ |d| = (rtbFwd r neg x).2 := by
  have hz0 : 0 < (x - p0) / (p1 - p0) := div_pos (sub_pos.mpr h0) (sub_pos.mpr hp)
  exact namedPostObject_lawful logHook p0 p1 x off neg hp (logHook_lawful _ hz0) (fun _ => exp_pos _)
    (log_hasDerivAt _ hz0)

example := log_rescale_object_lawful 1 3 3 false false (by norm_num) (by norm_num)

/-- **chain rule**: for RescaleToBounds over ℝ with hooks differentiable where they are applied (derivative = their reported
factor), the forward map is differentiable and the reported factor is the absolute value of its derivative. -/
theorem rtb_jac_is_derivative_real (r : Rtb ℝ) (neg : Bool) (x : ℝ) (hb : r.b0 < r.b1)
    (hpre : HasDerivAt (fun t => (r.preF t).1) (r.preF x).2 x)
    (hpost : HasDerivAt (fun t => (r.postF t).1) (r.postF (rtbCore r neg (r.preF x).1).1).2
      (rtbCore r neg (r.preF x).1).1) :
    ∃ d, HasDerivAt (fun t => (rtbFwd r neg t).1) d x ∧ |d| = |(rtbFwd r neg x).2| :=
  rtbFwd_hasDerivAt r neg x hb hpre hpost

/-- applied: pre-rescaling `log` (a distance-like parameter on [1, 4] in log space), no post-rescaling, at x = 2 -/
example :=
  rtb_jac_is_derivative_real ⟨1, 4, -1, 1, none, false, some logHook, none, false, 0, 0, 2, .unset⟩ false 2 (by norm_num)
    (log_hasDerivAt 2 (by norm_num)) (hasDerivAt_id _)

/-- **Angle** (with or without a radial parameter, any non-zero `scale`): for `r > 0` and the scaled angle inside the branch
the inverse uses — `(−π, π]` without, `[0, 2π)` with the `% 2π` of a zero lower bound — the inverse returns angle and radius
and its log-Jacobian is minus the forward one. -/
theorem angle_roundtrip (s θ r : ℝ) (zb : Bool) (hs : s ≠ 0) (hr : 0 < r)
    (h1 : zb = false → -π < θ * s ∧ θ * s ≤ π) (h2 : zb = true → 0 ≤ θ * s ∧ θ * s < 2 * π) :
    angleInv s zb (angleFwd s θ r).1 (angleFwd s θ r).2.1 = (θ, r, -(angleFwd s θ r).2.2) := by
  simp only [angleFwd, angleInv]
  rw [radius_polar r (θ * s) hr.le, ← apply_ite (· / s), arctan2_branch r (θ * s) zb hr h1 h2, mul_div_cancel_right₀ _ hs]

/-- applied: scale 2 (`angle-pi`), zero lower bound, θ = 1, r = 3 -/
example := angle_roundtrip 2 1 3 true (by norm_num) (by norm_num) (fun h => by cases h)
  (fun _ => ⟨by norm_num, by linarith [two_le_pi]⟩)

/-- the branch guard is needed: without the modulo, an angle beyond π comes back shifted by a full turn (this is the
configuration `FlowProposal.verify_rescaling` refuses at initialisation) -/
theorem angle_roundtrip_fails_without_branch :
    (angleInv 1 false (angleFwd 1 (3 * π / 2) 1).1 (angleFwd 1 (3 * π / 2) 1).2.1).1 ≠ 3 * π / 2 := by
  have hpi := pi_pos
  simp only [angleFwd, angleInv, Bool.false_eq_true, if_false, mul_one, one_mul, div_one]
  have h : arctan2 (sin (3 * π / 2)) (cos (3 * π / 2)) = 3 * π / 2 - 2 * π := by
    have := arctan2_polar 1 (3 * π / 2 - 2 * π) one_pos (by linarith) (by linarith)
    rwa [sin_sub_two_pi, cos_sub_two_pi, one_mul, one_mul] at this
  rw [h]; intro e; linarith

/-- **Angle: the reported log-Jacobian vs the true one.**  The model function `angleFwd` has the four partial derivatives
`a b c d` in (θ, r), and `log|det| = log_j + log|s|`: the reported `log r` differs from `log|det J|` by the constant `log|scale|`. -/
theorem angle_jacobian (s θ r : ℝ) (hs : s ≠ 0) (hr : 0 < r) :
    ∃ a b c d : ℝ,
      HasDerivAt (fun t => (angleFwd s t r).1) a θ ∧ HasDerivAt (fun ρ => (angleFwd s θ ρ).1) b r ∧
      HasDerivAt (fun t => (angleFwd s t r).2.1) c θ ∧ HasDerivAt (fun ρ => (angleFwd s θ ρ).2.1) d r ∧
      log |a * d - b * c| = (angleFwd s θ r).2.2 + log |s| := by
  obtain ⟨a, b, c, d, ha, hb, hc, hd, hdet⟩ :=
    polar_jacobian (A := fun t => t * s) (by simpa using (hasDerivAt_id θ).mul_const s) hr
  exact ⟨a, b, c, d, ha, hb, hc, hd, by rw [hdet, log_mul (abs_ne_zero.mpr hs) hr.ne']; exact add_comm _ _⟩

example := angle_jacobian 2 1 3 (by norm_num) (by norm_num)

/-- **ToCartesian** (modes split / duplicate / half = both sign bits): for `r > 0` every point of the closed prior interval —
both bounds included — comes back, with opposite log-Jacobians. -/
theorem toCartesian_roundtrip (p0 p1 x r : ℝ) (neg : Bool) (hp : p0 < p1) (hr : 0 < r) (h0 : p0 ≤ x) (h1 : x ≤ p1) :
    toCartInv p0 p1 (toCartFwd p0 p1 neg x r).1 (toCartFwd p0 p1 neg x r).2.1 = (x, r, -(toCartFwd p0 p1 neg x r).2.2) := by
  have hw : 0 < p1 - p0 := sub_pos.mpr hp
  have hu0 : 0 ≤ (x - p0) / (p1 - p0) := div_nonneg (sub_nonneg.mpr h0) hw.le
  have hu1 : (x - p0) / (p1 - p0) ≤ 1 := (div_le_one hw).mpr (sub_le_sub_right h1 p0)
  simp only [toCartFwd, toCartInv]
  rw [radius_polar r _ hr.le, abs_div, abs_of_pos pi_pos, toCartesian_angle r _ neg hr hu0 hu1]
  refine Prod.ext ?_ (Prod.ext rfl ?_)
  · simp only; field_simp; ring
  · simp only; ring

/-- applied at the upper bound with the sign bit set (the angle −π comes back as +π, the absolute value absorbs it) -/
example := toCartesian_roundtrip 2 5 5 1 true (by norm_num) (by norm_num) (by norm_num) (by norm_num)

/-- **ToCartesian: Jacobian.**  Partial derivatives of the model function `toCartFwd` in (x, r) and
`log|det| = log_j + log π`: the constant is the omitted `log scale` (`scale = π`). -/
theorem toCartesian_jacobian (p0 p1 x r : ℝ) (neg : Bool) (hp : p0 < p1) (hr : 0 < r) :
    ∃ a b c d : ℝ,
      HasDerivAt (fun t => (toCartFwd p0 p1 neg t r).1) a x ∧ HasDerivAt (fun ρ => (toCartFwd p0 p1 neg x ρ).1) b r ∧
      HasDerivAt (fun t => (toCartFwd p0 p1 neg t r).2.1) c x ∧ HasDerivAt (fun ρ => (toCartFwd p0 p1 neg x ρ).2.1) d r ∧
      log |a * d - b * c| = (toCartFwd p0 p1 neg x r).2.2 + log π := by
  have hw : 0 < p1 - p0 := sub_pos.mpr hp
  have hu : HasDerivAt (fun t : ℝ => (t - p0) / (p1 - p0)) (1 / (p1 - p0)) x :=
    ((hasDerivAt_id' x).sub_const p0).div_const (p1 - p0)
  -- ToCartesian is the Angle map with the angle `±π·u(x)`, of slope `±π / (p1 − p0)`
  obtain ⟨k, hA, hk⟩ : ∃ k, HasDerivAt (fun t => (if neg then -((t - p0) / (p1 - p0)) else (t - p0) / (p1 - p0)) * π) k x ∧
      |k| = π / (p1 - p0) := by
    cases neg
    · exact ⟨_, hu.mul_const π, by rw [one_div_mul_eq_div, abs_of_pos (div_pos pi_pos hw)]⟩
    · exact ⟨_, hu.neg.mul_const π, by rw [neg_mul, abs_neg, one_div_mul_eq_div, abs_of_pos (div_pos pi_pos hw)]⟩
  obtain ⟨a, b, c, d, ha, hb, hc, hd, hdet⟩ := polar_jacobian hA hr
  refine ⟨a, b, c, d, ha, hb, hc, hd, ?_⟩
  rw [hdet, hk, log_mul (div_pos pi_pos hw).ne' hr.ne', log_div pi_pos.ne' hw.ne']
  simp only [toCartFwd]; ring

example := toCartesian_jacobian 2 5 3 1 true (by norm_num) (by norm_num)

/-- **AnglePair**, both conventions, with or without the `% 2π`: off the poles and off the identified end point of the
horizontal angle, for `r > 0`, both angles and the radius come back and the log-Jacobians are negatives of each other. -/
theorem anglePair_roundtrip (α β r : ℝ) (m : Bool) (hr : 0 < r)
    (h1 : m = false → -π < α ∧ α ≤ π) (h2 : m = true → 0 ≤ α ∧ α < 2 * π) :
    (-(π / 2) < β → β < π / 2 →
      radecInv m (radecFwd α β r).1 (radecFwd α β r).2.1 (radecFwd α β r).2.2.1 = (α, β, r, -(radecFwd α β r).2.2.2)) ∧
    (0 < β → β < π →
      azzenInv m (azzenFwd α β r).1 (azzenFwd α β r).2.1 (azzenFwd α β r).2.2.1 = (α, β, r, -(azzenFwd α β r).2.2.2)) := by
  have hpi := pi_pos
  refine ⟨fun hβ0 hβ1 => ?_, fun hβ0 hβ1 => ?_⟩
  · have hrc : 0 < r * cos β := mul_pos hr (cos_pos_of_mem_Ioo ⟨hβ0, hβ1⟩)
    simp only [radecFwd, radecInv]
    rw [anglePair_radius r α β hr.le, radius_polar (r * cos β) α hrc.le,
      arctan2_polar r β hr (by linarith) (by linarith), arctan2_branch (r * cos β) α m hrc h1 h2]
    congr 3; ring
  · have hrs : 0 < r * sin β := mul_pos hr (sin_pos_of_pos_of_lt_pi hβ0 hβ1)
    simp only [azzenFwd, azzenInv]
    rw [anglePair_radius' r α β hr.le, radius_polar (r * sin β) α hrs.le,
      arctan2_polar r β hr (by linarith) hβ1.le, arctan2_branch (r * sin β) α m hrs h1 h2]
    congr 3; ring

/-- applied: α = 0, β = 1/2 (inside both (−π/2, π/2) and (0, π)), r = 2, no modulo; both conventions -/
example :=
  let h := anglePair_roundtrip 0 (1 / 2) 2 false (by norm_num) (fun _ => ⟨by linarith [pi_pos], pi_pos.le⟩) (fun h => by cases h)
  (⟨h.1 (by linarith [pi_pos]) (by linarith [two_le_pi]), h.2 (by norm_num) (by linarith [two_le_pi])⟩ : _ ∧ _)

/-- **AnglePair: Jacobians.**  The model functions `radecFwd` / `azzenFwd` have the nine partial derivatives `a … i` in
(α, β, r), and `log|det|` of that 3×3 matrix *equals* the reported log-Jacobian (`2 log r + log cos β`, resp.
`2 log r + log sin β`) wherever it is defined: the allowed constant is zero. -/
theorem anglePair_jacobian (α β r : ℝ) (hr : 0 < r) :
    (0 < cos β → ∃ a b c d e f g h i : ℝ,
      HasDerivAt (fun t => (radecFwd t β r).1) a α ∧ HasDerivAt (fun t => (radecFwd α t r).1) b β ∧
      HasDerivAt (fun ρ => (radecFwd α β ρ).1) c r ∧
      HasDerivAt (fun t => (radecFwd t β r).2.1) d α ∧ HasDerivAt (fun t => (radecFwd α t r).2.1) e β ∧
      HasDerivAt (fun ρ => (radecFwd α β ρ).2.1) f r ∧
      HasDerivAt (fun t => (radecFwd t β r).2.2.1) g α ∧ HasDerivAt (fun t => (radecFwd α t r).2.2.1) h β ∧
      HasDerivAt (fun ρ => (radecFwd α β ρ).2.2.1) i r ∧
      log |det3 a b c d e f g h i| = (radecFwd α β r).2.2.2) ∧
    (0 < sin β → ∃ a b c d e f g h i : ℝ,
      HasDerivAt (fun t => (azzenFwd t β r).1) a α ∧ HasDerivAt (fun t => (azzenFwd α t r).1) b β ∧
      HasDerivAt (fun ρ => (azzenFwd α β ρ).1) c r ∧
      HasDerivAt (fun t => (azzenFwd t β r).2.1) d α ∧ HasDerivAt (fun t => (azzenFwd α t r).2.1) e β ∧
      HasDerivAt (fun ρ => (azzenFwd α β ρ).2.1) f r ∧
      HasDerivAt (fun t => (azzenFwd t β r).2.2.1) g α ∧ HasDerivAt (fun t => (azzenFwd α t r).2.2.1) h β ∧
      HasDerivAt (fun ρ => (azzenFwd α β ρ).2.2.1) i r ∧
      log |det3 a b c d e f g h i| = (azzenFwd α β r).2.2.2) := by
  refine ⟨fun hc => ?_, fun hs => ?_⟩
  · obtain ⟨h1, h2, h3, h4, h5, h6, h7, h8, h9⟩ := anglePair_radec_partials r α β
    refine ⟨_, _, _, _, _, _, _, _, _, h1, h2, h3, h4, h5, h6, h7, h8, h9, ?_⟩
    rw [anglePair_radec_det, abs_of_pos (mul_pos (pow_pos hr 2) hc), log_mul (pow_pos hr 2).ne' hc.ne', log_pow]
    simp only [radecFwd]; push_cast; ring
  · obtain ⟨h1, h2, h3, h4, h5, h6, h7, h8, h9⟩ := anglePair_azzen_partials r α β
    refine ⟨_, _, _, _, _, _, _, _, _, h1, h2, h3, h4, h5, h6, h7, h8, h9, ?_⟩
    rw [anglePair_azzen_det, abs_neg, abs_of_pos (mul_pos (pow_pos hr 2) hs), log_mul (pow_pos hr 2).ne' hs.ne', log_pow]
    simp only [azzenFwd]; push_cast; ring

/-- applied on the equator, ra-dec: β = 0 (cos 0 = 1 > 0) -/
example := (anglePair_jacobian 1 0 2 (by norm_num)).1 (by simp)

/-
NOT SHOWN (the property is therefore PARTIAL in Lean; these clauses are checked by the numeric oracle only):
* "prime prior = prior / J up to a constant" for the GW distance converters (the polar classes are covered in section
  `polarPrior` below: uniform / sine angle with a χ(2) radius, isotropic angles with a χ(3) radius);
* the GW distance converters (power law: oracle only; co-moving volume: lookup table, not covered at all),
  `DeltaPhaseReparameterisation` (oracle only);
* `detect_edge`'s histogram decision (the edge is an input of the model);
* every effect of float rounding (the theorems are about exact arithmetic; the tie allows 16 ulp).
-/

end Real

section source
variable {K : Type} [Field K] [LinearOrder K]

/-- `Gen/RescaleTx.lean` is produced by `harness/pylog2lean.py` from the current text of the four affine primitives of
`nessai/utils/rescaling.py` (value as written; the returned log-Jacobian `±log(xmax - xmin)`, `log 2 - log(…)` read as a
log-domain number, i.e. as the Jacobian factor).  They are the model's primitives, for every field and every argument —
so the round-trip, Jacobian and prior theorems above are about the source as it is now. -/
theorem rescale_primitives_source_eq_model (lg ex : K → K) (x xmin xmax : K) :
    Gen.RescaleTx.rescale_zero_to_one lg ex x xmin xmax = rescaleZeroToOne x xmin xmax ∧
    Gen.RescaleTx.inverse_rescale_zero_to_one lg ex x xmin xmax = inverseRescaleZeroToOne x xmin xmax ∧
    Gen.RescaleTx.rescale_minus_one_to_one lg ex x xmin xmax = rescaleMinusOneToOne x xmin xmax ∧
    Gen.RescaleTx.inverse_rescale_minus_one_to_one lg ex x xmin xmax = inverseRescaleMinusOneToOne x xmin xmax := by
  have h2 : ((2 : Nat) : K) = 1 + 1 := by norm_num
  refine ⟨rfl, rfl, ?_, ?_⟩ <;>
    simp only [Gen.RescaleTx.rescale_minus_one_to_one, Gen.RescaleTx.inverse_rescale_minus_one_to_one,
      rescaleMinusOneToOne, inverseRescaleMinusOneToOne, two, h2]

example : Gen.RescaleTx.rescale_minus_one_to_one (fun x => x) (fun x => x) (3 : ℚ) 1 5 = (0, 1 / 2) := by
  decide +kernel

/-- `determine_rescaled_bounds` (the prime-prior bounds of `RescaleToBounds`: every branch on `inversion` and on the edge,
the offset, the rescale bounds, both `ValueError`s), generated from the current source in continuation style, is the model's
`determineRescaledBounds` for every argument (ordered field: the literals `-0.5`, `1.5`, `2` need characteristic 0). -/
theorem determine_rescaled_bounds_source_eq_model [IsStrictOrderedRing K] (pmin pmax xmin xmax : K) (invert : Edge)
    (inversion : Bool) (offset r0 r1 : K) :
    Gen.RescaleTx.determine_rescaled_bounds pmin pmax xmin xmax invert inversion offset r0 r1 =
      determineRescaledBounds pmin pmax xmin xmax invert inversion offset r0 r1 := by
  have h2 : ((2 : Nat) : K) = two := by rw [two_eq]; norm_num
  have h3 : ((3 : Nat) : K) / two = 1 + 1 / two := by rw [two_eq]; norm_num
  unfold Gen.RescaleTx.determine_rescaled_bounds determineRescaledBounds
  cases inversion
  · simp only [↓reduceIte, Bool.not_false, Bool.false_eq_true]
  · simp only [Bool.true_eq_false, ↓reduceIte, Bool.not_true, h2, h3, one_mul, add_zero]
    cases invert <;> simp only [reduceCtorEq, ↓reduceIte, or_false, or_true, or_self]

example : Gen.RescaleTx.determine_rescaled_bounds (1 : ℚ) 3 1 3 Edge.upper true 0 (-1) 1 = some (-1, 1) := by
  decide +kernel

end source

/-! ## Prime priors of the polar reparameterisations (source-generated definitions, over ℝ)

`Angle` / `ToCartesian` map an angle `θ` (uniform, or sine-distributed on `[0, π]`) and an auxiliary radius `r ~ χ(2)` to
`(x, y) = (r cos θ, r sin θ)`; `AnglePair` maps two isotropic angles and `r ~ χ(3)` to Cartesian coordinates with Jacobian
`r² cos β` (ra-dec).  The prime-space priors the code offers are `log_2d_cartesian_prior`, `log_2d_cartesian_prior_sine` and
`log_3d_cartesian_prior` (`nessai/priors.py`); the first and the last are GENERATED from the source (`Gen/RescaleTx.lean`).
The theorems say: prime prior = log-density of the angle + `logpdf` of the radius − `log r` (2d), − `log (r² cos β)` (3d),
wherever the map is regular.  In 2d that is the original prior − log|Jacobian| up to the additive constant the property
allows, not exactly: the determinant is `|s|·r` (`angle_jacobian`), and the argument `k` of `log_2d_cartesian_prior` is a free
variable here — it is whatever the class passes (`_k`), which is not modelled. -/
section polarPrior
open Real

/-- `scipy.stats.chi(2).logpdf(r)` and `chi(3).logpdf(r)` for `r > 0` -/
noncomputable def chi2LogPdf (r : ℝ) : ℝ := log r - r ^ 2 / 2
noncomputable def chi3LogPdf (r : ℝ) : ℝ := (1 / 2) * log (2 / π) + 2 * log r - r ^ 2 / 2

/-- the generated `log_2d_cartesian_prior` at `(r cos θ, r sin θ)`, for any value `k` of its third argument, is
`−log k + χ₂.logpdf(r) − log r`: the log-density of an angle uniform on a range of length `k` and a χ(2) radius, minus `log r` -/
theorem cartesian2d_prime_prior (θ r k : ℝ) (hr : 0 < r) :
    Gen.RescaleTx.log_2d_cartesian_prior Real.log Real.exp π (r * cos θ) (r * sin θ) k =
      (-log k) + chi2LogPdf r - log r := by
  have h : (r * cos θ) * (r * cos θ) + (r * sin θ) * (r * sin θ) = r ^ 2 := by
    rw [← sq, ← sq, polar_sq]
  simp only [Gen.RescaleTx.log_2d_cartesian_prior, chi2LogPdf, h]
  push_cast
  ring

/-- the sine prior (`nessai/priors.py: log_2d_cartesian_prior_sine`, for `y ≥ 0`; written out: this function clamps
negative `y` in place and is not in the translator's fragment): `log(y/2) − ½ log(x²+y²) − (x²+y²)/2` at
`(r cos θ, r sin θ)` is `log(sin θ / 2) + χ₂.logpdf(r) − log r` -/
theorem cartesian2d_sine_prime_prior (θ r : ℝ) (hr : 0 < r) (hs : 0 < sin θ) :
    log ((r * sin θ) / 2) - (1 / 2) * log ((r * cos θ) ^ 2 + (r * sin θ) ^ 2) - ((r * cos θ) ^ 2 + (r * sin θ) ^ 2) / 2 =
      log (sin θ / 2) + chi2LogPdf r - log r := by
  rw [polar_sq, mul_div_assoc, log_mul hr.ne' (div_pos hs two_pos).ne', log_pow, chi2LogPdf]
  push_cast
  ring

/-- isotropic angles (ra-dec: density `cos β / (4π)`), radius χ(3), Jacobian `r² cos β`: the generated
`log_3d_cartesian_prior` depends on the radius only and equals `log(cos β / (4π)) + χ₃.logpdf(r) − log(r² cos β)` -/
theorem cartesian3d_prime_prior (x y z r β : ℝ) (hr : 0 < r) (hc : 0 < cos β) (hxyz : x * x + y * y + z * z = r ^ 2) :
    Gen.RescaleTx.log_3d_cartesian_prior Real.log Real.exp π x y z =
      log (cos β / (4 * π)) + chi3LogPdf r - log (r ^ 2 * cos β) := by
  have hpi := pi_pos
  simp only [Gen.RescaleTx.log_3d_cartesian_prior, chi3LogPdf, hxyz]
  rw [log_div hc.ne' (by positivity), log_mul (by positivity) hc.ne', log_pow, log_mul (by norm_num) hpi.ne',
    log_div (by norm_num) hpi.ne']
  push_cast
  have h4 : log 4 = 2 * log 2 := by
    rw [show (4 : ℝ) = 2 ^ 2 by norm_num, log_pow]; norm_num
  rw [log_mul (by norm_num) hpi.ne', h4]
  ring

example := cartesian2d_prime_prior 1 2 π (by norm_num)

end polarPrior

end NessaiVerif.C07
