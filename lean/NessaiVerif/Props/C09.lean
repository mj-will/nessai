import NessaiVerif.Model.Pool
import NessaiVerif.Proofs.Pool
import NessaiVerif.Proofs.PoolLoop
import NessaiVerif.Proofs.PoolHand
import NessaiVerif.Proofs.PoolRadial
import NessaiVerif.Gen.PoolTx
import Mathlib.Analysis.SpecialFunctions.Exp
/-
C09 — proposal pools follow the prior inside the contour and never leave the prior.
The lemmas about the loops, masks and hand-out that these theorems rest on are in Proofs/Pool*.lean; a few more about the
model's float operations and masks, needed only to match the generated acceptance steps (`Gen/PoolTx.lean`), stand in this file,
next to the `…_source_eq_model` theorems that use them.

PARTIAL.  The statistical clause of the property — the pool is *distributed* as the prior restricted to the latent
contour — is NOT proved here.  What is proved is the bookkeeping around it, for candidate batches, in-bounds flags,
log-densities and log-uniforms that are arbitrary inputs: `accepted_iff` reduces "kept with probability w / w_max" to
the deterministic event `log u < log w − log w_max` in the code's form; the step from that event to a distribution
(uniformity of the RNG, exactness of the flow density) is assumed, not claimed.  `pool_follows_prior_partial`
collects the non-statistical clauses for the flow pool.

NOT MODELLED.  The population loops are modelled for `backward_pass(rescale=True)` only, i.e. for
`use_x_prime_prior = False`.  With a prime prior (GW reparameterisations) `populate` calls
`backward_pass(rescale=False)`, which does not call `check_prior_bounds`; `pool_in_bounds` and
`likelihood_args_in_support` say nothing about that branch (`backward_pass_without_rescale_keeps_out_of_bounds`
exhibits why the bounds clause cannot come from `backward_pass` there), and the harness does not drive it.
-/
namespace NessaiVerif.C09
open NessaiVerif.Pool NessaiVerif.Pool.EV

/-- `check_prior_bounds` returns exactly the rows whose `in_bounds` flag is set: nothing out of bounds survives,
nothing in bounds is dropped, order is kept. -/
theorem check_prior_bounds_sound (cs : List Cand) :
    (∀ c ∈ checkPriorBounds cs, c.inb = true) ∧ (∀ c ∈ cs, c.inb = true → c ∈ checkPriorBounds cs) ∧
      (checkPriorBounds cs).Sublist cs := by
  refine ⟨fun c h => (mem_checkPriorBounds.1 h).2, fun c h hb => mem_checkPriorBounds.2 ⟨h, hb⟩, ?_⟩
  exact List.filter_sublist

/-- The bounds check of `backward_pass` belongs to its `rescale=True` branch: there every survivor is in bounds; with
`rescale=False` (what `populate` passes when `use_x_prime_prior` is set) an out-of-bounds candidate with a finite
density survives.  The pool theorems below are stated for the `rescale=True` branch, the only one modelled. -/
theorem backward_pass_without_rescale_keeps_out_of_bounds :
    (∀ cs : List Cand, ∀ c ∈ backwardPassX true cs, c.inb = true) ∧
      backwardPassX false [⟨0, false, .fin 0, .fin 0⟩] = [⟨0, false, .fin 0, .fin 0⟩] ∧
      backwardPassX true [⟨0, false, .fin 0, .fin 0⟩] = [] := by
  refine ⟨fun cs c h => (mem_backwardPass.1 h).2.2, by decide +kernel, by decide +kernel⟩

/-- Every point of a flow pool (plain and accumulating branch of `FlowProposal.populate` with
`backward_pass(rescale=True)`, any number of batches, any sizes) went through `check_prior_bounds` of the batch it was
drawn in, hence is inside the prior bounds; no slot of the pool is left unwritten. -/
theorem pool_in_bounds (z : Bool) (N : Nat) (t : Option EV) (bs : List (List Cand)) (us : List (List EV))
    (P : Population) (hc : P.crashed = false) :
    (populatePlain z N t bs us = some P ∨ ∃ maxS gs, populateAcc z N maxS t bs gs us = some P) →
    (∀ s ∈ P.pool, s ≠ none) ∧
      ∀ c, some c ∈ P.pool → c.inb = true ∧ ∃ b ∈ bs, c ∈ checkPriorBounds b := by
  intro h
  obtain ⟨hw, -, -, -, hl⟩ := populate_spec hc h
  refine ⟨hw, fun c hc => ?_⟩
  obtain ⟨⟨b, hb, hs⟩, -⟩ := hl c hc
  obtain ⟨hm, -, hin⟩ := mem_survivors hs
  exact ⟨hin, b, hb, mem_checkPriorBounds.2 ⟨hm, hin⟩⟩

/-- Plain branch: when the `while n_accepted < N` loop ends, the pool has exactly `N` points; they are the first
`N` accepted points in drawing order; every slot `0 … N-1` of the array was written exactly once, in increasing
order (the write log is `range N`).  The plain loop has no other normal exit; `crashed = false` excludes the
population aborted by an exception (see `flow_population_aborts`). -/
theorem flow_pool_size_eq (z : Bool) (N : Nat) (t : Option EV) (bs : List (List Cand)) (us : List (List EV))
    (st : PlainSt) (h : plainLoop z N t (PlainSt.init N) bs us = some st) (hc : st.crashed = false) :
    (st.arr.take N).length = N ∧ st.arr.take N = ((plainStream t bs us).take N).map some ∧
      st.writes = List.range N ∧ N ≤ st.nAcc := by
  obtain ⟨h1, h2, h3, h4⟩ := plainLoop_spec (good_init N) h hc
  rw [List.nil_append] at h1 h2
  have ht : st.arr.take N = ((plainStream t bs us).take N).map some := by
    rw [h1, ← List.map_take, List.take_take, Nat.min_self]
  refine ⟨?_, ht, h3, h4⟩
  rw [ht, List.length_map, List.length_take]
  exact Nat.min_eq_left h2

/-- Accumulating branch (`accumulate_weights=True`): the pool never exceeds `N`, and it has exactly `N` points
whenever the loop ended through its guard, i.e. was not left through `if n_proposed > max_samples: break`. -/
theorem flow_pool_size_eq_acc (z : Bool) (N maxS : Nat) (t : Option EV) (bs : List (List Cand)) (gs : List Bool)
    (us : List (List EV)) (P : Population) (h : populateAcc z N maxS t bs gs us = some P)
    (hc : P.crashed = false) :
    P.pool.length ≤ N ∧ (P.broke = false → P.pool.length = N) := by
  obtain ⟨-, -, h1, h2, -⟩ := populate_spec (us := us) hc (Or.inr ⟨maxS, gs, h⟩)
  exact ⟨h1, h2⟩

/-- The hypothesis of `flow_pool_size_eq_acc` is needed: with `max_samples = 1` a first batch of two candidates
makes the loop `break`; `accept` is then drawn after the loop and one point of the requested two is in the pool.  When
every surviving candidate has a zero prior (`log_p = −inf`) the pool is even empty — `populated` is then set with an
empty index list and the next `draw` fails on `indices.pop()` (the last conjunct). -/
theorem flow_pool_size_eq_acc_fails_without :
    ((populateAcc false 2 1 none [[⟨0, true, .fin 0, .fin 0⟩, ⟨1, true, .fin 0, .fin (-1)⟩]] [false]
        [[.fin (-1/2), .fin (-1/2)]]).map fun P => (P.broke, P.pool.length)) = some (true, 1) ∧
    ((populateAcc false 2 1 none [[⟨0, true, .fin 0, .ninf⟩, ⟨1, true, .fin 0, .ninf⟩]] [false]
        [[.fin (-1/2), .fin (-1/2)]]).map fun P => (P.broke, P.pool.length)) = some (true, 0) ∧
    hrun {} [⟨[], []⟩] [.draw] = [.errIndex] := by
  decide +kernel

/-- The behaviour of `FlowProposal.backward_pass` before fix c6b6530 (rows with a non-finite `log_prob` dropped from
`x` and `log_prob` but not from `z`, so `check_prior_bounds(x, z, log_prob)` raised `IndexError`): with it
(`strictZ = true`) a population whose next drawn batch holds a non-finite log-density is aborted, whatever came
before.  The correspondence drives the fixed code with `strictZ = false`; a regression shows up as a crash the model
does not have. -/
theorem flow_population_aborts (N : Nat) (t : Option EV) (st : PlainSt) (b : List Cand) (bs : List (List Cand))
    (us : List (List EV)) (hN : st.nAcc < N) (hb : ∃ c ∈ b, c.logq.isFinite = false) :
    (plainLoop true N t st (b :: bs) us).map (·.crashed) = some true := by
  rw [plainLoop, if_neg (Nat.not_le.2 hN), if_pos (batchCrashes_eq_true.2 ⟨rfl, hb⟩)]
  rfl

/-- Conversely a population is never aborted when the quirk is absent (`strictZ = false`: every class since fix
c6b6530, `AugmentedFlowProposal` always) or when every drawn log-density is finite — the side condition
`crashed = false` of the theorems above then holds. -/
theorem flow_population_completes (z : Bool) (N : Nat) (t : Option EV) (bs : List (List Cand)) (us : List (List EV))
    (P : Population) (hz : z = false ∨ ∀ b ∈ bs, ∀ c ∈ b, c.logq.isFinite = true)
    (h : populatePlain z N t bs us = some P ∨ ∃ maxS gs, populateAcc z N maxS t bs gs us = some P) :
    P.crashed = false := by
  have hb : ∀ b ∈ bs, batchCrashes z b = false := by
    intro b hb
    refine Bool.eq_false_iff.2 fun hcr => ?_
    obtain ⟨hz', c, hc, hq⟩ := batchCrashes_eq_true.1 hcr
    rcases hz with hz | hz
    · exact absurd (hz'.symm.trans hz) nofun
    · exact absurd ((hz b hb c hc).symm.trans hq) nofun
  rcases h with h | ⟨maxS, gs, h⟩
  · obtain ⟨st, hl, -, -, hcr, -⟩ := populatePlain_eq_some h
    exact hcr ▸ plainLoop_no_crash hb rfl hl
  · obtain ⟨st, broke, us', hl, hcr, -⟩ := populateAcc_eq_some h
    exact hcr ▸ accLoop_no_crash hb rfl hl

/-- A prior-rejection pool (`RejectionProposal.populate(N)`) holds at most the `N` drawn candidates, in drawing
order, and the likelihood is evaluated on exactly the pool. -/
theorem rejection_pool_size_le (cands : List Cand) (lus : List EV) :
    (populateRejection cands lus).pool.length ≤ cands.length ∧
      (populateRejection cands lus).pool.Sublist (cands.map some) ∧
      (populateRejection cands lus).llCalls = (populateRejection cands lus).pool := by
  -- the pool is `(select mask cands).map some`
  exact ⟨(List.length_map _).trans_le (select_sublist _ cands).length_le, (select_sublist _ cands).map some, rfl⟩

/-- The fill loops of `Model._multiple_new_points` and `ImportanceNestedSampler.populate_live_points`
(`out[n:n+m] = p[accept][:m]; n += m`): when they end, all `N` slots hold accepted points (finite log-prior) taken
from the drawn batches. -/
theorem fill_loop_complete {α : Type} (N : Nat) (keep : α → Bool) (bs : List (List α)) (out : List (Option α))
    (h : fillLoop N keep (List.replicate N none) 0 bs = some out) :
    out.length = N ∧ ∀ s ∈ out, ∃ c, s = some c ∧ keep c = true ∧ ∃ b ∈ bs, c ∈ b := by
  obtain ⟨rfl, hN⟩ := fillLoop_eq (pre := []) (by rw [List.take_nil]; rfl) (Nat.min_zero N).symm h
  rw [List.nil_append] at hN ⊢
  refine ⟨by rw [List.length_map, List.length_take]; exact Nat.min_eq_left hN, fun s hs => ?_⟩
  obtain ⟨c, hc, rfl⟩ := List.mem_map.1 hs
  obtain ⟨b, hb, hcb⟩ := List.mem_flatMap.1 (List.mem_of_mem_take hc)
  obtain ⟨hcb, hk⟩ := List.mem_filter.1 hcb
  exact ⟨c, rfl, hk, b, hb, hcb⟩

/-- Between two populations no index is handed out twice, and populations do not share handed-out entries:
for every sequence of `draw` / invalidation (`train`) operations and every sequence of populations whose index
lists are duplicate-free (what `np.random.permutation` returns), the `(population number, index)` pairs returned
by `draw` are pairwise distinct. -/
theorem handout_nodup (pops : List Pop) (ops : List Op) (hp : ∀ p ∈ pops, p.indices.Nodup) :
    (handedKeys (hrun {} pops ops)).Nodup := by
  rw [handedKeys_eq]
  -- the initial state `{}` counts as an emptied population number 0: `avail {} pops` is `handouts 1 pops` by `rfl`, and the scripted
  -- populations are numbered from 1 (whence `pops[c - 1]?` in `handout_current_pool`)
  exact ((hrun_sublist ops {} pops).map _).nodup (nodup_handouts_keys 1 pops hp)

/-- Across populations the pool is replaced: a point returned by `draw` is entry `idx` of the pool of the latest
population (number `count`), with `idx` taken from that population's index list — never from an earlier pool. -/
theorem handout_current_pool (pops : List Pop) (ops : List Op) (c i : Nat) (id : Option Nat)
    (h : Out.handed c i id ∈ hrun {} pops ops) :
    ∃ p, 0 < c ∧ pops[c - 1]? = some p ∧ i ∈ p.indices ∧ id = p.pool[i]? := by
  have hm : (c, i, id) ∈ handouts 1 pops :=
    (hrun_sublist ops {} pops).subset (List.mem_filterMap.2 ⟨_, h, rfl⟩)
  obtain ⟨k, p, rfl, hp⟩ := mem_handouts hm
  rw [Nat.add_sub_cancel_left]
  exact ⟨p, Nat.add_pos_left Nat.one_pos k, hp⟩

/-- The scripted permutation used in the correspondence is a genuine permutation of `range n`, so the hypothesis of
`handout_nodup` holds for it. -/
theorem scripted_permutation_nodup (keys : List Int) (n : Nat) :
    (permOf keys n).Nodup ∧ (permOf keys n).Perm (List.range n) :=
  have h : (permOf keys n).Perm (List.range n) := List.mergeSort_perm _ _
  ⟨h.nodup_iff.2 List.nodup_range, h⟩

/-- The acceptance test in exactly the code's form.  Flow pools: `(log_w − log_w_max) > log_u`, i.e. for finite
values `log u < log w − log w_max`; for `u = 0` (`log u = −inf`) every finite weight is accepted.  Prior-rejection
pools: `((log_w − log_w_max) − log_u) >= 0`, i.e. `log u ≤ log w − log w_max`. -/
theorem accepted_iff (lw m lu : Rat) :
    (acceptFlow (.fin lw) (.fin m) (.fin lu) = true ↔ lu < lw - m) ∧
      acceptFlow (.fin lw) (.fin m) .ninf = true ∧
      (acceptRej (.fin lw) (.fin m) (.fin lu) = true ↔ lu ≤ lw - m) := by
  -- on finite values the tests are `decide (lu < lw - m)` and `decide (0 ≤ lw - m - lu)` by definition
  exact ⟨decide_eq_true_iff, rfl, decide_eq_true_iff.trans sub_nonneg⟩

/-- A point whose log-prior is −inf or NaN is never accepted — whatever the uniform (including `u = 0`), the normalising
maximum and the proposal density: `log_p − log_q` is NaN or −inf whenever `log_p` is, so the hypothesis `hq` (finite proposal
density, which `backward_pass` ensures) is not used.  For log-priors that are not `+inf` an accepted point therefore has a finite
log-prior. -/
theorem accepted_prior_finite (c : Cand) (m u : EV) (hq : c.logq.isFinite = true)
    (h : acceptFlow (logWeight c) m u = true ∨ acceptRej (logWeight c) m u = true) :
    c.logp ≠ .ninf ∧ c.logp ≠ .nan ∧ (c.logp ≠ .pinf → c.logp.isFinite = true) := by
  -- `log_w = log_p − log_q`
  have hp : c.logp ≠ .nan ∧ c.logp ≠ .ninf := sub_left_ne (h.elim acceptFlow_weight acceptRej_weight)
  exact ⟨hp.2, hp.1, finite_of_not hp.1 hp.2⟩

/-- The side condition `log_p ≠ +inf` of `accepted_prior_finite` is needed for finiteness at the level of a single
test (a `+inf` prior against a finite maximum is accepted); log-priors are never `+inf` in the property's domain. -/
theorem accepted_prior_finite_fails_without :
    acceptFlow (logWeight ⟨0, true, .fin 0, .pinf⟩) (.fin 0) (.fin (-1)) = true ∧
      (⟨0, true, .fin 0, .pinf⟩ : Cand).logp.isFinite = false := by
  decide +kernel

/-- Flow pools: every argument of the likelihood call made by `populate` (the whole pool, in pool order) is a
candidate that is in bounds, has a finite proposal density and a log-prior that is neither −inf nor NaN
(finite, for log-priors that are not `+inf`); no unwritten slot is evaluated. -/
theorem likelihood_args_in_support (z : Bool) (N : Nat) (t : Option EV) (bs : List (List Cand))
    (us : List (List EV)) (P : Population) (hc : P.crashed = false)
    (h : populatePlain z N t bs us = some P ∨ ∃ maxS gs, populateAcc z N maxS t bs gs us = some P) :
    (∀ s ∈ P.llCalls, s ≠ none) ∧
      ∀ c, some c ∈ P.llCalls → c.inb = true ∧ c.logp ≠ .ninf ∧ c.logp ≠ .nan ∧
        (c.logp ≠ .pinf → c.logp.isFinite = true) := by
  obtain ⟨hw, hcall, -, -, hl⟩ := populate_spec hc h
  rw [hcall]
  refine ⟨hw, fun c hc => ?_⟩
  obtain ⟨⟨b, -, hs⟩, m, u, ha⟩ := hl c hc
  exact ⟨(mem_survivors hs).2.2, accepted_prior_finite c m u (mem_survivors hs).2.1 (Or.inl ha)⟩

/-- Prior-rejection pools: the likelihood is called only on accepted candidates, and (given the finite proposal
density `new_point_log_prob` returns) an accepted candidate has a log-prior that is neither −inf nor NaN.
`RejectionProposal.populate` has no bounds filter of its own: that the arguments are in bounds is inherited from
`Model.new_point` (hypothesis `hb`; for the default `new_point` it is the range of `np.random.uniform(lower, upper)`). -/
theorem likelihood_args_in_support_rejection (cands : List Cand) (lus : List EV)
    (hq : ∀ c ∈ cands, c.logq.isFinite = true) (hb : ∀ c ∈ cands, c.inb = true) :
    ∀ c, some c ∈ (populateRejection cands lus).llCalls →
      c ∈ cands ∧ c.inb = true ∧ c.logp ≠ .ninf ∧ c.logp ≠ .nan := by
  intro c hc
  simp only [populateRejection, List.mem_map, Option.some.injEq] at hc
  obtain ⟨c', hc', rfl⟩ := hc
  have hm : c' ∈ cands := mem_of_mem_select hc'
  obtain ⟨u, ha⟩ := mem_select_rejectMask logWeight hc'
  have := accepted_prior_finite c' _ u (hq c' hm) (Or.inr ha)
  exact ⟨hm, hb c' hm, this.1, this.2.1⟩

/-- Importance sampler: `ImportanceFlowProposal.draw(n)` returns exactly `n` points when its loop ends, each of
which passed the unit-hypercube mask and has a finite log-prior — these are the arguments `draw_n_samples` hands
to the likelihood. -/
theorem likelihood_args_in_support_ins (n : Nat) (bs : List (List ICand)) (out : List ICand) (k : Nat)
    (h : insDraw n bs = some (out, k)) :
    out.length = n ∧ ∀ c ∈ out, c.inCube = true ∧ c.logP.isFinite = true ∧ c.logW ≠ .pinf ∧ ∃ b ∈ bs, c ∈ b := by
  obtain ⟨⟨s, k'⟩, hl, h⟩ := Option.map_eq_some_iff.1 h
  obtain ⟨rfl, -⟩ := Prod.mk.inj h
  obtain ⟨h1, h2⟩ := insLoop_eq rfl hl
  refine ⟨by rw [List.length_take]; exact Nat.min_eq_left h1, fun c hc => ?_⟩
  obtain ⟨b, hb, hcb⟩ := List.mem_flatMap.1 (h2.subset (List.mem_of_mem_take hc))
  obtain ⟨hcb, m2⟩ := List.mem_filter.1 hcb
  obtain ⟨hcb, m1⟩ := List.mem_filter.1 hcb
  simp only [ICand.mask1, ICand.mask2, Bool.and_eq_true, Bool.not_eq_true', beq_eq_false_iff_ne] at m1 m2
  exact ⟨m1.1.1.1.1, m2.1.1.1, m2.1.1.2, b, hb, hcb⟩

/-- Rescaling a direction `x` to radius `p` (`p * x / ‖x‖`, as `NDimensionalTruncatedGaussian.sample` and
`draw_truncated_gaussian` do) gives a point of squared norm `p²` (sqrt-free: `s` is any number with `s² = ‖x‖²`,
`s ≠ 0`); and `p = ppf(u)` with `u ≤ u_max = cdf(r·fuzz)` is at most `r·fuzz` for a monotone `ppf` with
`ppf(cdf(r·fuzz)) ≤ r·fuzz` (only this instance of "ppf inverts cdf" is used) and `0 ≤ ppf(u)` (a radius), so no
latent point lies outside the contour: `‖z‖² ≤ (r·fuzz)²`.  Any ordered field (ℚ, ℝ). -/
theorem radial_norm {K : Type} [Field K] [LinearOrder K] [IsStrictOrderedRing K]
    (ppf cdf : K → K) (hmono : Monotone ppf) (r fuzz u s : K) (xs : List K)
    (hinv : ppf (cdf (r * fuzz)) ≤ r * fuzz) (hpos : 0 ≤ ppf u)
    (hs : s ≠ 0) (hnorm : normSq xs = s * s) (hu : u ≤ cdf (r * fuzz)) :
    normSq (radialScale (ppf u) s xs) = ppf u * ppf u ∧ ppf u ≤ r * fuzz ∧
      normSq (radialScale (ppf u) s xs) ≤ (r * fuzz) * (r * fuzz) := by
  have h2 : ppf u ≤ r * fuzz := le_trans (hmono hu) hinv
  rw [normSq_radialScale, hnorm, div_mul_cancel₀ _ (mul_ne_zero hs hs)]
  exact ⟨rfl, h2, mul_le_mul h2 h2 hpos (hpos.trans h2)⟩

/-- `radial_norm` INSTANTIATED (non-vacuity): on ℚ with `ppf = cdf = fun x => max x 0` (monotone,
`ppf (cdf y) = y` for `y ≥ 0`), contour `r·fuzz = 2·1`, `u = 3/2`, direction `(3,4)` of norm `s = 5`. -/
example : normSq (radialScale (max (3/2 : ℚ) 0) 5 [3, 4]) ≤ (2 * 1) * (2 * 1) :=
  (radial_norm (K := ℚ) (fun x => max x 0) (fun x => max x 0)
    (fun a b h => max_le_max h le_rfl) 2 1 (3/2) 5 [3, 4]
    (by decide +kernel) (le_max_right _ _) (by decide +kernel) (by decide +kernel) (by decide +kernel)).2.2

/-- **Summary (partial).**  A completed population of the flow proposal (plain branch, or accumulating branch not
cut short by `max_samples`) has exactly the requested size; every pool point is in bounds with a usable prior; the
likelihood is evaluated on exactly the pool.  NOT covered: that the pool is distributed as the prior restricted to
the latent contour (the statistical clause of C09), and that the stored `logP` / `logL` equal the model's values
(checked on the real code by the oracle of the harness, not a theorem about this bookkeeping model). -/
theorem pool_follows_prior_partial (z : Bool) (N : Nat) (t : Option EV) (bs : List (List Cand))
    (us : List (List EV)) (P : Population) (hc : P.crashed = false)
    (h : populatePlain z N t bs us = some P ∨
      ∃ maxS gs, populateAcc z N maxS t bs gs us = some P ∧ P.broke = false) :
    P.pool.length = N ∧ P.llCalls = P.pool ∧
      ∀ s ∈ P.pool, ∃ c, s = some c ∧ c.inb = true ∧ c.logp ≠ .ninf ∧ c.logp ≠ .nan := by
  have h' : populatePlain z N t bs us = some P ∨ ∃ maxS gs, populateAcc z N maxS t bs gs us = some P :=
    h.imp_right fun ⟨a, b, h, _⟩ => ⟨a, b, h⟩
  -- only the accumulating branch can be left through `break`
  have hb : P.broke = false := by
    rcases h with h | ⟨_, _, _, hb⟩
    · obtain ⟨_, -, -, -, -, hb⟩ := populatePlain_eq_some h
      exact hb
    · exact hb
  obtain ⟨hw, hcall, -, hN, -⟩ := populate_spec hc h'
  obtain ⟨-, l2⟩ := likelihood_args_in_support z N t bs us P hc h'
  refine ⟨hN hb, hcall, fun s hs => ?_⟩
  cases s with
  | none => exact absurd rfl (hw none hs)
  | some c =>
    obtain ⟨a, b, c', -⟩ := l2 c (hcall ▸ hs)
    exact ⟨c, rfl, a, b, c'⟩

/-- a plain population with out-of-bounds, infinite-density and zero-prior candidates completes with `N = 3` -/
example : ((populatePlain false 3 none
    [[⟨0, true, .fin 0, .fin 0⟩, ⟨1, false, .fin 0, .fin 0⟩, ⟨2, true, .pinf, .fin 0⟩],
     [⟨3, true, .fin 0, .ninf⟩, ⟨4, true, .fin (1/2), .fin 0⟩, ⟨5, true, .fin 0, .fin 0⟩]]
    [[.fin (-1), .fin (-1), .fin (-1)], [.fin (-1), .fin (-1), .fin (-1)]]).map
      fun P => P.pool.map (·.map (·.id))) = some [some 0, some 4, some 5] := by decide +kernel

/-- an accumulating population that ends through the loop guard -/
example : ((populateAcc false 2 100 none
    [[⟨0, true, .fin 0, .fin 0⟩, ⟨1, true, .fin 0, .fin (-1)⟩], [⟨2, true, .fin 0, .fin 0⟩]] [false, true]
    [[.fin (-1/2), .fin (-1/2), .fin (-1/2)]]).map
      fun P => (P.broke, P.pool.map (·.map (·.id)))) = some (false, [some 0, some 2]) := by decide +kernel

/-- the abort is reachable: a non-finite log-density in the first batch of a `FlowProposal` population -/
example : ((populatePlain true 1 none [[⟨0, true, .fin 0, .fin 0⟩, ⟨1, true, .pinf, .fin 0⟩]] [[.fin (-1), .fin (-1)]]).map
    (·.crashed)) = some true := by decide +kernel

/-- a session: populate, two draws exhaust the pool, invalidation, a second population replaces the pool -/
example : hrun {} [⟨[10, 11], [1, 0]⟩, ⟨[20, 21, 22], [2, 0, 1]⟩] [.draw, .draw, .inval, .draw]
    = [.handed 1 0 (some 10), .handed 1 1 (some 11), .ok, .handed 2 1 (some 21)] := by decide +kernel

/-- the fill loop: zero-prior draws are skipped, the three slots are filled from two batches -/
example : newPoints 3 [[⟨0, true, .fin 0, .ninf⟩, ⟨1, true, .fin 0, .fin 0⟩, ⟨2, true, .fin 0, .fin (-1)⟩],
    [⟨3, true, .fin 0, .fin 0⟩, ⟨4, true, .fin 0, .fin 0⟩, ⟨5, true, .fin 0, .fin 0⟩]]
    = some [some ⟨1, true, .fin 0, .fin 0⟩, some ⟨2, true, .fin 0, .fin (-1)⟩, some ⟨3, true, .fin 0, .fin 0⟩] := by
  decide +kernel

/-- a prior-rejection population: the zero-prior candidate is rejected even with `u = 0`, the others accepted -/
example : (populateRejection [⟨0, true, .fin 0, .ninf⟩, ⟨1, true, .fin 0, .fin 0⟩, ⟨2, true, .fin (1/2), .fin (-1)⟩]
    [.ninf, .ninf, .ninf]).pool.map (·.map (·.id)) = [some 1, some 2] := by decide +kernel

/-- the hypotheses of `accepted_prior_finite` are satisfiable: a finite-density, finite-prior point is accepted -/
example : (⟨0, true, .fin 0, .fin (-1)⟩ : Cand).logq.isFinite = true ∧
    acceptFlow (logWeight ⟨0, true, .fin 0, .fin (-1)⟩) (.fin 0) (.fin (-2)) = true := by decide +kernel

/-- an importance-sampler draw: the out-of-cube and the zero-prior candidate are dropped, exactly `n = 2` returned -/
example : ((insDraw 2
    [[⟨0, false, true, true, true, true, .fin 0, .fin 0, .fin 0, false, false⟩,
      ⟨1, true, true, true, true, true, .ninf, .fin 0, .fin 0, false, false⟩,
      ⟨2, true, true, true, true, true, .fin 0, .fin 0, .fin 0, false, false⟩],
     [⟨3, true, true, true, true, true, .fin 0, .fin 0, .fin 0, false, false⟩,
      ⟨4, true, true, true, true, true, .fin 0, .fin 0, .fin 0, false, false⟩]]).map
      fun r => (r.1.map (·.id), r.2)) = some ([2, 3], 2) := by decide +kernel

/-- `pool_in_bounds`, `likelihood_args_in_support` and `pool_follows_prior_partial` applied to a completed plain
population (one out-of-bounds, one accepted candidate) -/
example :
    let a : Cand := ⟨0, false, .fin 0, .fin 0⟩
    let c : Cand := ⟨1, true, .fin 0, .fin 0⟩
    let P : Population := { pool := [some c], llCalls := [some c], nAcc := 1, nProp := 2, batches := 1, rands := 1 }
    ((∀ s ∈ P.pool, s ≠ none) ∧ ∀ c', some c' ∈ P.pool → c'.inb = true ∧ ∃ b ∈ [[a, c]], c' ∈ checkPriorBounds b) ∧
    ((∀ s ∈ P.llCalls, s ≠ none) ∧ ∀ c', some c' ∈ P.llCalls → c'.inb = true ∧ c'.logp ≠ .ninf ∧ c'.logp ≠ .nan ∧
        (c'.logp ≠ .pinf → c'.logp.isFinite = true)) ∧
    (P.pool.length = 1 ∧ P.llCalls = P.pool ∧
      ∀ s ∈ P.pool, ∃ c', s = some c' ∧ c'.inb = true ∧ c'.logp ≠ .ninf ∧ c'.logp ≠ .nan) := by
  intro a c P
  have h : populatePlain false 1 none [[a, c]] [[.fin (-1), .fin (-1)]] = some P := by decide +kernel
  exact ⟨pool_in_bounds false 1 none _ _ P rfl (Or.inl h),
         likelihood_args_in_support false 1 none _ _ P rfl (Or.inl h),
         pool_follows_prior_partial false 1 none _ _ P rfl (Or.inl h)⟩

/-- the same three, and `flow_pool_size_eq_acc`, applied to a completed accumulating population -/
example :
    let c0 : Cand := ⟨0, true, .fin 0, .fin 0⟩
    let c1 : Cand := ⟨1, true, .fin 0, .fin (-1)⟩
    let c2 : Cand := ⟨2, true, .fin 0, .fin 0⟩
    let P : Population := { pool := [some c0, some c2], llCalls := [some c0, some c2], nAcc := 2, nProp := 3,
                            batches := 2, rands := 1 }
    (P.pool.length ≤ 2 ∧ (P.broke = false → P.pool.length = 2)) ∧
    (∀ c', some c' ∈ P.pool → c'.inb = true ∧ ∃ b ∈ [[c0, c1], [c2]], c' ∈ checkPriorBounds b) ∧
    (∀ c', some c' ∈ P.llCalls → c'.inb = true ∧ c'.logp ≠ .ninf ∧ c'.logp ≠ .nan ∧
        (c'.logp ≠ .pinf → c'.logp.isFinite = true)) ∧
    P.pool.length = 2 := by
  intro c0 c1 c2 P
  have h : populateAcc false 2 100 none [[c0, c1], [c2]] [false, true]
      [[.fin (-1/2), .fin (-1/2), .fin (-1/2)]] = some P := by decide +kernel
  exact ⟨flow_pool_size_eq_acc false 2 100 none _ _ _ P h rfl,
         (pool_in_bounds false 2 none _ _ P rfl (Or.inr ⟨100, _, h⟩)).2,
         (likelihood_args_in_support false 2 none _ _ P rfl (Or.inr ⟨100, _, h⟩)).2,
         (pool_follows_prior_partial false 2 none _ _ P rfl (Or.inr ⟨100, _, h, rfl⟩)).1⟩

/-- `flow_pool_size_eq` applied: the final loop state of a two-batch plain population with `N = 2` -/
example :
    let c0 : Cand := ⟨0, true, .fin 0, .fin 0⟩
    let c1 : Cand := ⟨1, true, .fin 0, .fin 0⟩
    let st : PlainSt := { arr := [some c0, some c1], nAcc := 2, nProp := 2, writes := [0, 1], batches := 2, rands := 2 }
    (st.arr.take 2).length = 2 ∧ st.writes = List.range 2 := by
  intro c0 c1 st
  have h : plainLoop false 2 none (PlainSt.init 2) [[c0], [c1]] [[.fin (-1)], [.fin (-1)]] = some st := by
    decide +kernel
  have := flow_pool_size_eq false 2 none _ _ st h rfl
  exact ⟨this.1, this.2.2.1⟩

/-- `flow_population_aborts` applied (pre-fix behaviour) and `flow_population_completes` applied (all densities
finite, `strictZ = true`) -/
example :
    (plainLoop true 1 none (PlainSt.init 1) [[⟨0, true, .pinf, .fin 0⟩]] []).map (·.crashed) = some true ∧
    ({ pool := [some ⟨0, true, .fin 0, .fin 0⟩], llCalls := [some ⟨0, true, .fin 0, .fin 0⟩], nAcc := 1, nProp := 1,
       batches := 1, rands := 1 } : Population).crashed = false := by
  refine ⟨flow_population_aborts 1 none (PlainSt.init 1) _ [] [] (by decide) ⟨_, List.mem_cons_self, rfl⟩, ?_⟩
  exact flow_population_completes true 1 none [[⟨0, true, .fin 0, .fin 0⟩]] [[.fin (-1)]] _
    (Or.inr (by decide)) (Or.inl (by decide +kernel))

/-- `fill_loop_complete` applied to the run of the fill-loop example above (`keep` = finite log-prior) -/
example : ∀ s ∈ [some (⟨1, true, .fin 0, .fin 0⟩ : Cand), some ⟨2, true, .fin 0, .fin (-1)⟩],
    ∃ c, s = some c ∧ c.logp.isFinite = true ∧
      ∃ b ∈ [[(⟨0, true, .fin 0, .ninf⟩ : Cand), ⟨1, true, .fin 0, .fin 0⟩, ⟨2, true, .fin 0, .fin (-1)⟩]], c ∈ b :=
  (fill_loop_complete 2 (fun c : Cand => c.logp.isFinite)
    [[⟨0, true, .fin 0, .ninf⟩, ⟨1, true, .fin 0, .fin 0⟩, ⟨2, true, .fin 0, .fin (-1)⟩]] _ (by decide +kernel)).2

/-- `handout_nodup` and `handout_current_pool` applied to the session of the example above -/
example :
    (handedKeys (hrun {} [⟨[10, 11], [1, 0]⟩, ⟨[20, 21, 22], [2, 0, 1]⟩] [.draw, .draw, .inval, .draw])).Nodup ∧
    ∃ p, 0 < 2 ∧ [(⟨[10, 11], [1, 0]⟩ : Pop), ⟨[20, 21, 22], [2, 0, 1]⟩][2 - 1]? = some p ∧ 1 ∈ p.indices ∧
      some 21 = p.pool[1]? :=
  ⟨handout_nodup _ _ (by decide),
   handout_current_pool [⟨[10, 11], [1, 0]⟩, ⟨[20, 21, 22], [2, 0, 1]⟩] [.draw, .draw, .inval, .draw] 2 1 (some 21)
     (by decide)⟩

/-- `accepted_prior_finite` applied to an accepted point -/
example : (⟨0, true, .fin 0, .fin (-1)⟩ : Cand).logp ≠ .ninf :=
  (accepted_prior_finite ⟨0, true, .fin 0, .fin (-1)⟩ (.fin 0) (.fin (-2)) rfl (Or.inl (by decide +kernel))).1

/-- `likelihood_args_in_support_rejection` applied: all candidates in bounds with finite proposal density -/
example : ∀ c, some c ∈ (populateRejection
      [⟨0, true, .fin 0, .ninf⟩, ⟨1, true, .fin 0, .fin 0⟩, ⟨2, true, .fin (1/2), .fin (-1)⟩] [.ninf, .ninf, .ninf]).llCalls →
    c ∈ [(⟨0, true, .fin 0, .ninf⟩ : Cand), ⟨1, true, .fin 0, .fin 0⟩, ⟨2, true, .fin (1/2), .fin (-1)⟩] ∧
      c.inb = true ∧ c.logp ≠ .ninf ∧ c.logp ≠ .nan :=
  likelihood_args_in_support_rejection _ _ (by decide) (by decide)

/-- `likelihood_args_in_support_ins` applied to the importance-sampler draw of the example above -/
example :
    let g : Nat → ICand := fun i => ⟨i, true, true, true, true, true, .fin 0, .fin 0, .fin 0, false, false⟩
    ([g 2, g 3] : List ICand).length = 2 ∧ ∀ c ∈ [g 2, g 3], c.inCube = true ∧ c.logP.isFinite = true ∧
      c.logW ≠ .pinf ∧ ∃ b ∈ [[(⟨0, false, true, true, true, true, .fin 0, .fin 0, .fin 0, false, false⟩ : ICand),
        ⟨1, true, true, true, true, true, .ninf, .fin 0, .fin 0, false, false⟩, g 2], [g 3, g 4]], c ∈ b := by
  intro g
  exact likelihood_args_in_support_ins 2 _ [g 2, g 3] 2 (by decide +kernel)

/-! ### the acceptance step of the source, regenerated on every run, IS the model's

`Gen/PoolTx.lean` is produced by `harness/c09_tx.py` from the current text of `RejectionProposal.populate` (normalisation by
`np.nanmax`, `log_u = np.log(np.random.rand(N))`, `np.where((log_w - log_u) >= 0)[0]`, `x[indices]`), literally, in the
extended-value arithmetic of the model.  It selects exactly the candidates of `populateRejection`'s pool. -/

theorem EV.sub_nan_right (x : EV) : EV.sub x .nan = .nan := by cases x <;> rfl
theorem EV.ge_nan_left (y : EV) : EV.ge .nan y = false := by cases y <;> rfl

theorem select_zipWith_eq_rejectMask {α : Type} (lw : List EV) (m : EV) (lus : List EV) (x : List α) :
    select (List.zipWith (fun a b => EV.ge (EV.sub a b) (.fin 0)) (lw.map (fun w => EV.sub w m)) lus) x =
      select (rejectMask lw m lus) x := by
  rw [rejectMask_eq_testMask, testMask_eq_zipWith, select_append_replicate_false, List.zipWith_map_left]
  · rfl
  · intro w; rw [acceptRej, EV.sub_nan_right, EV.ge_nan_left]

theorem rejection_accept_source_eq_model (cands : List Cand) (lus : List EV) :
    (Gen.PoolTx.rejection_accept (logWeights cands) lus cands).map some = (populateRejection cands lus).pool := by
  simp only [Gen.PoolTx.rejection_accept, populateRejection, select_zipWith_eq_rejectMask]

theorem EV.gt_nan_right (x : EV) : EV.gt x .nan = false := by cases x <;> rfl

theorem select_zipWith_eq_acceptMask {α : Type} (lw : List EV) (c : EV) (lus : List EV) (x : List α) :
    select (List.zipWith (fun a b => EV.gt a b) (lw.map (fun w => EV.sub w c)) lus) x =
      select (acceptMask lw c lus) x := by
  rw [acceptMask_eq_testMask, testMask_eq_zipWith, select_append_replicate_false, List.zipWith_map_left]
  · rfl
  · exact fun w => EV.gt_nan_right _

theorem select_length_eq_countTrue {α : Type} (m : List Bool) (x : List α) (h : m.length ≤ x.length) :
    (select m x).length = countTrue m :=
  length_select m x h

/-- one batch of the plain branch of `FlowProposal.populate`, generated from the source: it writes
`x[accept][: min(N - n_accepted, #accepted)]` at `n_accepted` and adds the number accepted — exactly the step of the model's
`plainLoop` (`plainAccepted` with no `log_q` truncation) -/
theorem plain_batch_step_source_eq_model (N nAcc : Nat) (arr : List (Option Cand)) (x : List Cand) (lus : List EV) :
    Gen.PoolTx.plain_batch_step N nAcc arr (logWeights x) lus x =
      (let xa := select (acceptMask (logWeights x) (npMax (logWeights x)) lus) x
       (sliceWrite arr nAcc (min (N - nAcc) xa.length) xa, nAcc + xa.length)) := by
  rw [Gen.PoolTx.plain_batch_step, ← select_length_eq_countTrue _ x, select_zipWith_eq_acceptMask]
  -- the mask is no longer than `x`, so `accept.sum()` is the number of selected rows
  rw [List.length_zipWith, List.length_map, logWeights, List.length_map]
  exact Nat.min_le_left _ _

theorem zipWith_eq_acceptMask (lw : List EV) (c : EV) (lus : List EV) (h : lus.length = lw.length) :
    List.zipWith (fun a b => EV.gt a b) (lw.map (fun w => EV.sub w c)) lus = acceptMask lw c lus := by
  rw [acceptMask_eq_testMask, testMask_eq_zipWith, h, Nat.sub_self, List.zipWith_map_left]
  · exact (List.append_nil _).symm
  · exact fun w => EV.gt_nan_right _

/-- one non-empty batch of the ACCUMULATING branch of `FlowProposal.populate`, generated from the source: samples and weights are
appended, the constant is `max(nanmax(log_w), log_constant)`, and — when the gate `log_n_expected >= log_n` is open — the mask is
`(log_weights − log_constant) > log_u` over ALL accumulated weights with the UPDATED constant, `n_accepted` its count; the loop is
left when `n_proposed > max_samples`: exactly the step of the model's `accLoop` (`st2` / `st3`) -/
theorem acc_batch_step_source_eq_model (g : Bool) (maxS nProp nAcc rands : Nat) (samples : List Cand) (lws : List EV) (c : EV)
    (accept : Option (List Bool)) (x : List Cand) (lus : List EV) (hl : lus.length = (lws ++ logWeights x).length) :
    Gen.PoolTx.acc_batch_step g maxS nProp nAcc rands samples lws c accept x (logWeights x) lus =
      (let lws' := lws ++ logWeights x
       let c' := pyMax (nanmax (logWeights x)) c
       let acc := acceptMask lws' c' lus
       (samples ++ x, lws', c', if g then some acc else accept, if g then countTrue acc else nAcc,
        if g then rands + 1 else rands, decide (maxS < nProp))) := by
  cases g
  · simp [Gen.PoolTx.acc_batch_step]
  · simp only [Gen.PoolTx.acc_batch_step, if_true, zipWith_eq_acceptMask _ _ _ hl]

example : Gen.PoolTx.rejection_accept [.fin 0, .fin (-1), .ninf] [.fin (-1/2), .fin (-1/2), .ninf] [10, 11, 12] = [10] := by
  decide +kernel

/-! ### the statistical clause, reduced to its deterministic core

"The pool is distributed as the prior" is a statement about frequencies and is NOT proved as such.  What the rejection step
contributes to it IS a deterministic identity: a candidate drawn with proposal density `q` and prior density `p` is accepted
exactly for the uniforms `u` in an initial interval of `[0, 1)` whose length is `(p/q) / w_max`, so the accepted mass at the
point is `q · (p/q) / w_max = p / w_max` — the prior times a constant that does not depend on the point.  Both facts need
the normaliser to be (at least) the maximum of the WEIGHTS; with any other normaliser the accepted mass is not proportional
to the prior (counter-example below: the normaliser `max log p` of seeded change C09-fA).  The uniformity of
`np.random.rand` (interval length = probability) is the one assumption. -/
section statistical
variable {K : Type} [Field K] [LinearOrder K] [IsStrictOrderedRing K]

/-- the log-space acceptance test of the code (see `accepted_iff`) is the linear test `u < w / w_max` -/
theorem log_accept_iff_linear (lu lw m : ℝ) :
    lu < lw - m ↔ Real.exp lu < Real.exp lw / Real.exp m := by
  rw [← Real.exp_sub, Real.exp_lt_exp]

/-- for a weight below the normaliser the accepted uniforms form the initial interval `[0, w / w_max)` of `[0, 1)` -/
theorem accept_interval (w wmax u : K) (hw : 0 ≤ w) (hle : w ≤ wmax) (hpos : 0 < wmax) :
    0 ≤ w / wmax ∧ w / wmax ≤ 1 ∧ ((0 ≤ u ∧ u < 1 ∧ u < w / wmax) ↔ (0 ≤ u ∧ u < w / wmax)) := by
  have h1 : w / wmax ≤ 1 := by rw [div_le_one hpos]; exact hle
  refine ⟨div_nonneg_iff.2 (Or.inl ⟨hw, hpos.le⟩), h1, ?_⟩
  constructor
  · rintro ⟨a, _, c⟩; exact ⟨a, c⟩
  · rintro ⟨a, c⟩; exact ⟨a, lt_of_lt_of_le c h1, c⟩

/-- accepted mass at a point = proposal density × length of the acceptance interval = prior / w_max:
the SAME multiple of the prior at every point -/
theorem accepted_mass_is_prior (p q wmax : K) (hq : q ≠ 0) :
    q * ((p / q) / wmax) = p / wmax := by
  rw [← mul_div_assoc, mul_div_cancel₀ _ hq]

/-- with another normaliser `M` (acceptance probability `min 1 (w / M)`) the accepted masses of two points are in general
NOT in the ratio of their priors: priors 1 and 1/4, proposal densities 1/4 and 1 (weights 4 and 1/4), `M = 1` -/
theorem accepted_mass_fails_with_other_normaliser :
    let mass : ℚ → ℚ → ℚ → ℚ := fun p q M => q * min 1 ((p / q) / M)
    mass 1 (1 / 4) 1 / mass (1 / 4) 1 1 ≠ (1 : ℚ) / (1 / 4) ∧
      mass 1 (1 / 4) 4 / mass (1 / 4) 1 4 = (1 : ℚ) / (1 / 4) := by
  decide +kernel

example : (0 : ℚ) ≤ (1 / 2) / 2 ∧ (1 / 2 : ℚ) / 2 ≤ 1 ∧
    ((0 ≤ (1 / 8 : ℚ) ∧ (1 / 8 : ℚ) < 1 ∧ (1 / 8 : ℚ) < (1 / 2) / 2) ↔ (0 ≤ (1 / 8 : ℚ) ∧ (1 / 8 : ℚ) < (1 / 2) / 2)) :=
  accept_interval (1 / 2) 2 (1 / 8) (by norm_num) (by norm_num) (by norm_num)

end statistical

end NessaiVerif.C09
