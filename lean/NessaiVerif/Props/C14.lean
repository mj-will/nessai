import NessaiVerif.Model.Tables
import NessaiVerif.Gen.Tables
import NessaiVerif.Props.C10
/-
C14 — seeded runs are reproducible and independent of the parallelisation settings.

PARTIAL by nature.  Bit-determinism of NumPy / PyTorch kernels and of process scheduling is not provable; what is
decided here is structural, over whole-package tables regenerated from the current nessai sources on every run
(`Gen/Tables.lean`, by `harness/c14_tables.py`) and judged against hand-written allow-lists (`Model/Tables.lean`):

* the parallelisation settings are read only inside the batch-evaluation layer and its wiring, the pool is used
  only through the order-preserving `map` — and by C10 that layer returns the pointwise values whatever the
  settings are;
* every random-number site draws from a generator that `configure_random_seed` seeds;
* the only random draw whose execution depends on a parallelisation setting is the vectorisation probe, whose
  effect is modelled exactly (it is the recorded finding of this property).
Property theorems only.
-/
namespace NessaiVerif.C14
open NessaiVerif.Batch NessaiVerif.Tables

/-- Every read of `pool`, `n_pool`, `likelihood_chunksize`/`chunksize`, `parallelise_prior`, `allow_vectorised`
anywhere in the package (attribute, local name or keyed lookup) lies in the batch-evaluation layer
(`batch_evaluate_function`, `array_split_chunksize`, `get_n_pool`, `Model.batch_evaluate_*`, `configure_pool`,
`close_pool`, the vectorisation probe) or in a constructor that merely forwards the value.  No sampler, proposal,
flow or evidence code can see the settings. -/
theorem pool_settings_confined : ∀ r ∈ Gen.Tables.poolReads, readAllowed r = true := by decide +kernel

/-- non-vacuity: the table is not empty, and the allow-list does reject what it should: a sampler branching on
`n_pool`, a constructor doing more than forwarding, an unknown function. -/
example : Gen.Tables.poolReads.length ≥ 40 ∧
    readAllowed ⟨"nessai/samplers/nestedsampler.py", "NestedSampler.populate_live_points", 1, "n_pool", .test⟩ = false ∧
    readAllowed ⟨"nessai/samplers/nestedsampler.py", "NestedSampler.__init__", 1, "n_pool", .test⟩ = false ∧
    readAllowed ⟨"nessai/samplers/nestedsampler.py", "NestedSampler.__init__", 1, "n_pool", .use⟩ = false ∧
    readAllowed ⟨"nessai/proposal/flowproposal.py", "FlowProposal.populate", 1, "pool", .forward⟩ = false ∧
    readAllowed ⟨"nessai/samplers/nestedsampler.py", "NestedSampler.__init__", 1, "n_pool", .forward⟩ = true := by decide +kernel

/-- The pool is only ever used through `map` (results in input order — the `PoolLawful` hypothesis below is a statement
about `map`) and closed/joined/terminated, and only by the batch layer. -/
theorem pool_calls_order_preserving : ∀ c ∈ Gen.Tables.poolCalls, callAllowed c = true := by decide +kernel

example : Gen.Tables.poolCalls.length ≥ 3 ∧
    callAllowed ⟨"nessai/utils/multiprocessing.py", "batch_evaluate_function", 1, "imap_unordered"⟩ = false ∧
    callAllowed ⟨"nessai/samplers/nestedsampler.py", "NestedSampler.initialise", 1, "map"⟩ = false := by decide +kernel

/-- **Values do not depend on the parallelisation settings** (partial).
What is proved: for ANY two settings — chunk size, pool presence, pool size, vectorised or not — under which the batch
layer returns at all, it returns the same list, namely the pointwise values in input order.  This is C10's
`batchEval_eq_map` applied to each setting, given a batch-consistent likelihood and an order-preserving `pool.map`;
it says nothing about floating-point kernels.  The first conjunct merely restates the closed table fact
`pool_settings_confined` next to it.
What is NOT a Lean statement: no object here represents "a run of the sampler".  The step from these two facts — the
settings are read nowhere outside the batch layer, and the batch layer's values do not depend on them — to "two runs
that differ only in the settings compute the same thing" is an informal composition (it additionally needs that the
layer has no other effect that differs, which is exactly where the vectorisation probe's random draws come in, see
below); the digest runs observe it, no theorem states it. -/
theorem values_independent_of_pool_settings_partial {α β : Type}
    (F : List α → List β) (f : α → β) (pmap : (List α → List β) → List (List α) → List (List β))
    (hF : C10.Consistent F f) (hP : C10.PoolLawful pmap) (xs : List α)
    (vec vec' : Bool) (chunk chunk' : Option Int) (pool pool' : Bool) (nPool nPool' : Option Nat)
    (out out' : List β)
    (h : batchEval F f pmap vec chunk pool nPool xs = .ok out)
    (h' : batchEval F f pmap vec' chunk' pool' nPool' xs = .ok out') :
    (∀ r ∈ Gen.Tables.poolReads, readAllowed r = true) ∧ out = out' ∧ out = xs.map f := by
  have e := C10.batchEval_eq_map F f pmap hF hP vec chunk pool nPool xs out h
  have e' := C10.batchEval_eq_map F f pmap hF hP vec' chunk' pool' nPool' xs out' h'
  exact ⟨pool_settings_confined, by rw [e, e'], e⟩

/-- On the domain of the property (no pool or a pool of known size ≥ 1, chunk size absent or ≥ 0) the layer does
return, so every such run sees exactly `xs.map f`. -/
theorem values_total_on_domain {α β : Type}
    (F : List α → List β) (f : α → β) (pmap : (List α → List β) → List (List α) → List (List β))
    (hF : C10.Consistent F f) (hP : C10.PoolLawful pmap) (xs : List α)
    (vec : Bool) (chunk : Option Int) (pool : Bool) (n : Nat)
    (hchunk : ∀ c, chunk = some c → 0 ≤ c) (hn : 1 ≤ n) :
    batchEval F f pmap vec chunk pool (some n) xs = .ok (xs.map f) := by
  obtain ⟨out, h⟩ := C10.batchEval_total F f pmap vec chunk pool (some n) xs hchunk
    (fun _ _ _ => ⟨n, rfl, hn⟩)
  rw [h, C10.batchEval_eq_map F f pmap hF hP vec chunk pool (some n) xs out h]

/-- non-vacuity: two different settings on a concrete batch -/
example : (batchEval (fun b => b.map (· * 2)) (· * 2) (fun g ys => ys.map g) true (some 2) true (some 3) [1, 2, 3, 4, 5]).toOption
    = (batchEval (fun b => b.map (· * 2)) (· * 2) (fun g ys => ys.map g) false none false none [1, 2, 3, 4, 5]).toOption := by
  decide +kernel

/-- Without batch-consistency the chunk size does change the values: a "likelihood" that adds the batch length. -/
theorem values_independent_fails_without_consistent :
    ∃ (F : List Nat → List Nat) (pmap : (List Nat → List Nat) → List (List Nat) → List (List Nat)),
      C10.PoolLawful pmap ∧
      (batchEval F (· + 1) pmap true (some 1) false none [1, 2, 3]).toOption
        ≠ (batchEval F (· + 1) pmap true none false none [1, 2, 3]).toOption :=
  ⟨fun b => b.map (· + b.length), fun g ys => ys.map g, fun _ _ => rfl, by decide +kernel⟩

/-- Without an order-preserving `pool.map` the pool changes the values: a pool that returns the chunks reversed. -/
theorem values_independent_fails_without_lawful_pool :
    ∃ (pmap : (List Nat → List Nat) → List (List Nat) → List (List Nat)),
      C10.Consistent (fun b : List Nat => b.map (· + 1)) (· + 1) ∧
      (batchEval (fun b => b.map (· + 1)) (· + 1) pmap true (some 1) true (some 2) [1, 2, 3]).toOption
        ≠ (batchEval (fun b => b.map (· + 1)) (· + 1) pmap true (some 1) false none [1, 2, 3]).toOption :=
  ⟨fun g ys => (ys.map g).reverse, fun _ => rfl, by decide +kernel⟩

/-- `configure_random_seed` seeds both global generators nessai draws from. -/
theorem seed_covers_numpy_and_torch :
    Gen.Tables.seededSources.contains .numpyGlobal = true ∧ Gen.Tables.seededSources.contains .torchGlobal = true := by
  decide

/-- Every random-number site of the package (NumPy, torch, scipy `rvs`, `.sample…` of flows, generator
constructions, stdlib `random`, OS entropy) draws from a generator that `configure_random_seed` seeds, or
constructs a generator with an explicit seed; no site builds an unseeded generator, passes its own generator,
uses the `random` module or OS entropy (the exception list is empty).  Partial: that the third-party
`.sample…` methods (`delegated` rows) draw from the default torch generator is assumed. -/
theorem rng_sites_seeded : ∀ s ∈ Gen.Tables.rngSites, siteOk Gen.Tables.seededSources s = true := by decide +kernel

example : Gen.Tables.rngSites.length ≥ 40 ∧
    siteOk Gen.Tables.seededSources ⟨"nessai/proposal/flowproposal.py", "FlowProposal.populate", 1, "numpy.random.default_rng", .construct, .freshUnseeded⟩ = false ∧
    siteOk Gen.Tables.seededSources ⟨"nessai/proposal/flowproposal.py", "FlowProposal.populate", 1, "random.random", .draw, .stdlibRandom⟩ = false ∧
    siteOk [.numpyGlobal] ⟨"nessai/flowmodel/base.py", "FlowModel._train", 410, "torch.randperm", .draw, .torchGlobal⟩ = false ∧
    siteOk Gen.Tables.seededSources ⟨"nessai/flowmodel/base.py", "FlowModel._train", 410, "torch.randperm", .draw, .torchGlobal⟩ = true := by
  decide +kernel

/-- The branch of `configure_random_seed` that REPLACES the seed by a random one (its condition is regenerated from the
source) is taken exactly when the seed is `None` — for every integer seed, including `0`, the user's value is kept. -/
theorem seed_replaced_iff_none : ∀ s : Option Int, Gen.Tables.seedReplaced s = s.isNone := by
  intro s; cases s <;> rfl

/-- the edge seeds of the digest runs, by evaluation -/
example : Gen.Tables.seedReplaced (some 0) = false ∧ Gen.Tables.seedReplaced (some 1) = false ∧
    Gen.Tables.seedReplaced (some 4294967294) = false ∧ Gen.Tables.seedReplaced none = true := by decide

/-- …whereas the truthiness test `if not seed:` would replace the legal seed 0 (what the theorem above excludes). -/
theorem seed_kept_fails_without_is_none_test : (!pyTruthy (some 0)) = true ∧ (some (0 : Int)).isNone = false := by decide

/-- In `configure_random_seed` the argument is rebound only inside the replacement branch, `self.seed` stores exactly
the argument, and afterwards — as top-level statements, hence on every path — both the NumPy and the torch global
generators are seeded with that stored value. -/
theorem seeding_unconditional_with_stored_seed :
    seedingOk Gen.Tables.seedBinds Gen.Tables.seedCalls = true := by decide +kernel

example : seedingOk [⟨5, "self.seed", "seed", false⟩] [⟨6, "numpy.random.seed", .numpyGlobal, "self.seed", true⟩] = false ∧
    seedingOk [⟨5, "self.seed", "seed", false⟩, ⟨4, "seed", "seed or 1", false⟩]
      [⟨6, "numpy.random.seed", .numpyGlobal, "self.seed", true⟩, ⟨7, "torch.manual_seed", .torchGlobal, "self.seed", true⟩] = false ∧
    seedingOk [⟨5, "self.seed", "seed", false⟩]
      [⟨6, "numpy.random.seed", .numpyGlobal, "self.seed", true⟩, ⟨7, "torch.manual_seed", .torchGlobal, "self.seed", false⟩] = false := by
  decide +kernel

/-- In the constructor chain of a new run (`FlowSampler.__init__` → `NestedSampler.__init__` /
`ImportanceNestedSampler.__init__` → `BaseNestedSampler.__init__`, expanded in execution order from the source)
`configure_random_seed` is called exactly once, and the only call before it that can draw random numbers is
`model.verify_model()`, whose draws are discarded.  Every other drawing call of the constructors — and everything
`FlowSampler.run` does afterwards — comes after the generators have been seeded.
Partial: "can draw" is by callee name over a name-based call graph; that `verify_model` leaves nothing behind that
depends on its draws is read from the source and observed by the digest runs (each starts from a different ambient
generator state), not proved; the resume branch of `FlowSampler.__init__` is not part of the chain. -/
theorem seeded_before_first_draw_partial :
    chainSeedsFirst Gen.Tables.constructorChainStandard = true ∧
    chainSeedsFirst Gen.Tables.constructorChainImportance = true := by decide +kernel

/-- non-vacuity: the chains are long, do contain a pre-seed draw, and the predicate rejects a drawing call moved in
front of the seeding step, a chain that never seeds, and one that seeds twice -/
example : Gen.Tables.constructorChainStandard.length ≥ 20 ∧
    (Gen.Tables.constructorChainStandard.takeWhile (fun s => !s.seeds)).any (·.draws) = true ∧
    chainSeedsFirst [⟨0, "nessai/samplers/base.py", "BaseNestedSampler.__init__", 90, "self.model.new_point", true, false⟩,
                     ⟨1, "nessai/samplers/base.py", "BaseNestedSampler.__init__", 109, "self.configure_random_seed", false, true⟩] = false ∧
    chainSeedsFirst [⟨0, "nessai/samplers/base.py", "BaseNestedSampler.__init__", 88, "model.verify_model", true, false⟩] = false ∧
    chainSeedsFirst [⟨0, "a", "b", 1, "self.configure_random_seed", false, true⟩,
                     ⟨1, "a", "b", 2, "self.configure_random_seed", false, true⟩] = false := by decide +kernel

/-- The only draws of random numbers whose execution is conditional on a parallelisation setting are those of the
vectorisation probe (`Model.vectorised_likelihood` behind `allow_vectorised`).  Partial: "draws" are found through a
name-based call graph (over-approximate callee resolution, constructors not followed). -/
theorem guarded_draws_only_probe_partial : ∀ g ∈ Gen.Tables.guardedDraws, guardedKnown g = true := by decide +kernel

example : Gen.Tables.guardedDraws.length ≥ 1 ∧
    guardedKnown ⟨"nessai/samplers/nestedsampler.py", "NestedSampler.populate_live_points", 1, "n_pool", "self.model.new_point"⟩ = false := by
  decide +kernel

/-- **The probe consumes the same random numbers whatever the pool settings are — provided the pool's size is known.**
For a fresh or identically cached model: with no pool, with `n_pool`, or with a user pool whose size is found
(`detected = some n`, any `n`) or given (a truthy `n_pool`), the number of prior points the probe draws from the
seeded generator and the `vectorised` flag it yields are those of the run without any pool.  (Partial: a statement
about this model of `configure_pool` + the probe, tied to the real methods by the correspondence.) -/
theorem probe_independent_of_pool_settings_partial (allow0 : Bool) (a : PoolArgs) (cached : Option Bool) (isVec : Bool)
    (hknown : a.userPool = true → (∃ n, a.detected = some n) ∨ truthy a.nPoolArg = true) :
    probe (configurePool allow0 a).1 cached isVec = probe (configurePool allow0 ⟨false, none, none⟩).1 cached isVec := by
  have hallow : (configurePool allow0 a).1 = allow0 := by
    unfold configurePool
    cases hu : a.userPool
    · simp; split <;> rfl
    · rcases hknown hu with ⟨n, hn⟩ | hn
      · simp [hn]; split <;> rfl
      · simp [hn]; split <;> rfl
  rw [hallow]
  simp [configurePool, truthy]

example : probe (configurePool true ⟨true, some 3, none⟩).1 none true = (10, true, some true) := by decide

/-- …and it fails without that hypothesis: a user pool whose size can neither be detected nor was given makes
`configure_pool` switch `allow_vectorised` off, the probe is skipped, and the run consumes ten prior points fewer
from the seeded generator than the same run without a pool (KNOWN FINDING: such a pool changes the results). -/
theorem probe_independent_fails_without_known_pool_size :
    probeDraws true ⟨true, none, none⟩ none true = 0 ∧ probeDraws true ⟨false, none, none⟩ none true = 10 := by decide

/-- …and the cache matters: a `Model` instance that has already been through a run (`_vectorised_likelihood` cached)
skips the probe, so a second same-seed run that reuses the instance consumes ten prior points fewer than the first.
(Outside the property's domain — it compares equal model definitions, i.e. fresh instances; this is why every run of
the check builds a fresh `Model`.  Recorded as an observation only.) -/
theorem probe_independent_fails_without_fresh_model :
    probeDraws true ⟨false, none, none⟩ (some true) true = 0 ∧ probeDraws true ⟨false, none, none⟩ none true = 10 := by decide

end NessaiVerif.C14
