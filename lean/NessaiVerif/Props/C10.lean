import NessaiVerif.Proofs.Batch
import NessaiVerif.Gen.BatchTx
/-
C10 — batched, chunked and pooled evaluation equals pointwise evaluation, once.
-/
namespace NessaiVerif.C10
open NessaiVerif.Np NessaiVerif.Batch

variable {α β : Type}

/-- Hypotheses of the property: the user function is batch-consistent (what
`check_vectorised_function` tests) and `pool.map` is order-preserving `map`. -/
def Consistent (F : List α → List β) (f : α → β) : Prop := ∀ b, F b = b.map f
def PoolLawful (pmap : (List α → List β) → List (List α) → List (List β)) : Prop :=
  ∀ g ys, pmap g ys = ys.map g

/-- `array_split_chunksize` loses, duplicates and reorders nothing (any length incl. 0).  `chunks ≠ []` matters:
`np.concatenate([])` raises, so an empty batch must still yield one (empty) chunk. -/
theorem concat_split_chunk (xs : List α) (c : Int) (hc : 1 ≤ c) :
    ∃ chunks, arraySplitChunksize xs c = .ok chunks ∧ chunks.flatten = xs ∧ chunks ≠ [] :=
  ⟨_, arraySplitChunksize_of_pos xs hc, flatten_splitChunk _ _, splitChunk_ne_nil _ _⟩

/-- the documented guarantee: the function is never called with more than `chunksize` points -/
theorem chunk_len_le (xs : List α) (c : Int) (hc : 1 ≤ c) :
    ∀ chunks, arraySplitChunksize xs c = .ok chunks → ∀ ch ∈ chunks, (ch.length : Int) ≤ c := by
  intro chunks h ch hch
  rw [arraySplitChunksize_of_pos xs hc] at h
  cases h
  have := splitChunk_len_le c.toNat (by omega) xs ch hch
  omega

/-- `array_split_chunksize` raises for a chunk size below one.  The batch interface never hands it 0: `if chunksize:`
reads a falsy chunk size as "no chunking" (`batchCalls` treats `some 0` as `none`); a negative one reaches it and raises. -/
theorem chunksize_zero_rejected (xs : List α) (c : Int) (hc : c < 1) :
    arraySplitChunksize xs c = .error .valueErr :=
  arraySplitChunksize_of_lt xs hc

/-- `np.array_split(x, n_pool)` loses, duplicates and reorders nothing, for every pool size -/
theorem concat_split_n (xs : List α) (n : Nat) (hn : 1 ≤ n) :
    (splitN n xs).flatten = xs ∧ (splitN n xs).length = n :=
  ⟨flatten_splitN n hn xs, length_splitN n xs⟩

/-- Every point is handed to the user function exactly once, in order, in every branch. -/
theorem calls_cover_once (vectorised : Bool) (chunk : Option Int) (pool : Bool)
    (nPool : Option Nat) (xs : List α) (calls : List (List α))
    (h : batchCalls vectorised chunk pool nPool xs = .ok calls) : calls.flatten = xs := by
  rw [batchCalls_eq] at h
  cases vectorised
  · cases h
    exact flatten_singletons xs
  · have hw : ∀ {calls}, (if pool then splitPool nPool xs else .ok [xs]) = .ok calls → calls.flatten = xs := by
      intro calls h
      cases pool
      · cases h
        exact List.flatten_singleton
      · exact flatten_splitPool h
    rw [if_pos rfl] at h
    cases chunk with
    | none => exact hw h
    | some c =>
      dsimp only at h
      split at h
      · exact hw h
      · exact flatten_arraySplitChunksize h

/-- **Main theorem.**  Whenever the batch interface returns, it returns exactly the
pointwise values in the input order — for every chunk size, pool size, vectorised or not. -/
theorem batchEval_eq_map (F : List α → List β) (f : α → β)
    (pmap : (List α → List β) → List (List α) → List (List β))
    (hF : Consistent F f) (hP : PoolLawful pmap)
    (vectorised : Bool) (chunk : Option Int) (pool : Bool) (nPool : Option Nat)
    (xs : List α) (out : List β)
    (h : batchEval F f pmap vectorised chunk pool nPool xs = .ok out) : out = xs.map f := by
  unfold batchEval at h
  split at h
  · cases h
  · rename_i calls hcalls
    -- vectorised or not, each batch `b` is mapped to `b.map f`; with or without a pool, that is done batch by batch
    have hg : (if vectorised then F else fun b => b.map f) = fun b => b.map f := by
      cases vectorised
      · rfl
      · exact funext hF
    dsimp only at h
    rw [hP, ite_self, hg] at h
    cases h
    rw [← List.map_flatten, calls_cover_once vectorised chunk pool nPool xs calls hcalls]

/-- The batch interface fails only for the configurations the code rejects:
negative chunk size, or a pool whose size is unknown/zero with a vectorised function
and no chunk size. -/
theorem batchEval_total (F : List α → List β) (f : α → β)
    (pmap : (List α → List β) → List (List α) → List (List β))
    (vectorised : Bool) (chunk : Option Int) (pool : Bool) (nPool : Option Nat) (xs : List α)
    (hchunk : ∀ c, chunk = some c → 0 ≤ c)
    (hpool : pool = true → vectorised = true → (chunk = none ∨ chunk = some 0) → ∃ n, nPool = some n ∧ 1 ≤ n) :
    ∃ out, batchEval F f pmap vectorised chunk pool nPool xs = .ok out := by
  -- the evaluation succeeds as soon as the batches are formed
  suffices h : ∃ calls, batchCalls vectorised chunk pool nPool xs = .ok calls by
    obtain ⟨calls, h⟩ := h
    unfold batchEval
    rw [h]
    cases pool <;> exact ⟨_, rfl⟩
  rw [batchCalls_eq]
  cases vectorised
  · exact ⟨_, rfl⟩
  · -- a pool that is asked to split has a known, positive size
    have hw : (chunk = none ∨ chunk = some 0) → ∃ calls, (if pool then splitPool nPool xs else .ok [xs]) = .ok calls := by
      intro hc
      cases pool
      · exact ⟨_, rfl⟩
      · obtain ⟨n, rfl, hn⟩ := hpool rfl rfl hc
        exact ⟨_, splitPool_of_pos xs hn⟩
    rw [if_pos rfl]
    cases chunk with
    | none => exact hw (.inl rfl)
    | some c =>
      dsimp only
      by_cases h0 : c = 0
      · rw [if_pos (beq_iff_eq.mpr h0)]
        exact hw (.inr (by rw [h0]))
      · -- a non-zero chunk size is positive
        have := hchunk c rfl
        rw [if_neg (mt beq_iff_eq.mp h0)]
        exact ⟨_, arraySplitChunksize_of_pos xs (by omega)⟩

/-- The likelihood-evaluation counter grows by exactly the batch size, once.
DEFINITIONAL: the model's `counterAfter` adds the batch length by construction, so this restates the model; that the
real `Model.batch_evaluate_log_likelihood` adds `len(x)` to `likelihood_evaluations` exactly once per call (all chunkings,
pool or no pool) is established by the correspondence, which reads the real counter before and after every call. -/
theorem counter_once (before : Nat) (xs : List α) :
    counterAfter before xs.length = before + xs.length := rfl

/-- non-vacuity: a concrete chunked, pooled evaluation meets the hypotheses and returns the map -/
example : (batchEval (fun b => b.map (· + 1)) (· + 1) (fun g ys => ys.map g)
    true (some 2) true (some 3) [1, 2, 3, 4, 5]).toOption = some [2, 3, 4, 5, 6] := by
  obtain ⟨out, h⟩ := batchEval_total (fun b => b.map (· + 1)) (· + 1) (fun g ys => ys.map g) true (some 2) true (some 3)
    [1, 2, 3, 4, 5] (fun c hc => by cases hc; decide) (fun _ _ hc => by simp at hc)
  rw [h, batchEval_eq_map (hF := fun _ => rfl) (hP := fun _ _ => rfl) (h := h)]
  rfl

/-- `Gen.BatchTx.batchCallsTx` is generated by `harness/c10_tx.py` from the current text of `batch_evaluate_function`
(its `if` tree and the way each leaf calls the user function).  For every input it hands the user function exactly the
batches `batchCalls` says, and goes through `pool.map` exactly when a pool was given — so `calls_cover_once`,
`batchEval_eq_map` and `batchEval_total` are theorems about the source as it is now. -/
theorem batch_calls_source_eq_model (vectorised : Bool) (chunk : Option Int) (pool : Bool) (nPool : Option Nat) (xs : List α) :
    Gen.BatchTx.batchCallsTx vectorised chunk (!pool) nPool xs =
      tagCalls pool (batchCalls vectorised chunk pool nPool xs) := by
  unfold Gen.BatchTx.batchCallsTx batchCalls
  -- the generated tree tests `c ≠ 0` where the model tests `c == 0`, so those two branches are swapped; otherwise
  -- the trees agree leaf by leaf
  cases pool <;> cases vectorised <;> cases chunk <;> simp
  all_goals (rename_i c; by_cases h : c = 0 <;> simp [h])

example : Gen.BatchTx.batchCallsTx true (some 2) true none [1, 2, 3] = .ok (false, [[1, 2], [3]]) := by
  simp [Gen.BatchTx.batchCallsTx, tagCalls, arraySplitChunksize, splitChunk]

end NessaiVerif.C10
