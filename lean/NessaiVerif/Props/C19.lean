import NessaiVerif.Model.Encode
import NessaiVerif.Gen.Encode
import NessaiVerif.Proofs.Encode
import NessaiVerif.Proofs.EncodeH5
/-
C19 — saved results read back equal to the in-memory results.
`jsonChain`, `jsonFallback`, `h5Sentinel`, `extTable` are GENERATED from
nessai/utils/io.py and nessai/flowsampler.py on every run (Gen/Encode.lean), so every theorem below is
re-proved against the dispatch the source has now.  The json text layer, `ndarray.tolist`, `str(obj)` and the
h5py container / numpy coercion are external: they are modelled (Model/Encode.lean, Model/EncodeLeaf.lean) and
assumed; the correspondence validates them on every run.
NOT covered by a theorem (oracle + model==code correspondence only): the result-level clauses of the property —
which fields a real result dictionary of either sampler holds (log_evidence, log_evidence_error, nested_samples /
samples, posterior_samples, log_posterior_weights, insertion_indices, history) and that they equal the in-memory
results, and the conversion of `posterior_samples` to a dict of columns in the JSON branch of `save_results`.
-/
namespace NessaiVerif.C19
open NessaiVerif.Encode NessaiVerif.Gen.Encode

/-- The generated `NessaiJSONEncoder.default` chain dispatches as documented: numpy integers → `int`,
numpy floats → `float`, arrays → `tolist()`, every other non-native object (incl. `np.bool_`) → `str(obj)`. -/
theorem dispatch_spec : DispatchSpec jsonChain jsonFallback :=
  ⟨by decide, by decide, by decide, by decide, by decide⟩

/-- The encoder driven by the GENERATED dispatch produces the documented canonical form `canon` (a per-constructor
description: ndarray ↦ nested lists of its elements in row-major order, numpy int/float scalar ↦ the number,
tuple ↦ list, any other object ↦ `str(obj)`), for every tree whose keys the json module accepts and whose arrays
are well-shaped, and never raises.  The content of this theorem is the dispatch facts (`dispatch_spec`) carried
through the recursion; what `canon` means is determined independently by `json_plain_identity`,
`json_scalars_numbers`, `json_array_values_preserved`, `json_array_1d` below. -/
theorem json_dispatch_matches_canon (t : Tree) (hk : KeysOk t) (hw : WellShaped t) :
    jsonEncode jsonChain jsonFallback t = .ok (canon t) :=
  jsonEncode_eq_canon dispatch_spec t hk hw

example : jsonEncode jsonChain jsonFallback (.dict [(.int 3, .ndarray .float [1, 2] [.npFloat .f64 0 none, .none])]) =
    .ok (.dict [(.str "3", .list [.list [.float 0, .none]])]) :=
  json_dispatch_matches_canon _ (by simp [KeysOk, KeysOkKvs, KeysOkList]) (by simp [WellShaped, WellShapedKvs, WellShapedList, prod])

/-- **JSON round trip.**  Write with `save_to_json`, read with `json.load` (which builds dictionaries by assignment,
so a repeated key would collapse).  For every tree (i) whose keys the json module accepts, (ii) whose keys are
distinct as written to the file in every dictionary, (iii) whose arrays hold as many elements as their shape says:
the write never raises and the value read is the canonical form, which consists of native JSON values only.
Assumed of the json text layer and validated by the correspondence, not proved: `dumps`/`loads` of native values is
the identity, incl. `NaN`/`Infinity` literals, float repr round trip and member order. -/
theorem json_roundtrip (t : Tree) (hk : KeysOk t) (hd : KeysDistinct t) (hw : WellShaped t) :
    jsonRoundTrip jsonChain jsonFallback t = .ok (canon t) ∧ IsJson (canon t) :=
  ⟨jsonRoundTrip_eq_canon dispatch_spec t hk hd hw, canon_isJson t hk⟩

example : jsonRoundTrip jsonChain jsonFallback
    (.dict [(.str "history", .dict [(.str "logZ", .list [.npFloat .f64 0x7ff8000000000000 none, .none])]),
            (.int 3, .ndarray .float [1, 2] [.float 0, .float 0x7ff0000000000000]), (.str "cls", .opaque "<class 'A'>")]) =
    .ok (.dict [(.str "history", .dict [(.str "logZ", .list [.float 0x7ff8000000000000, .none])]),
            (.str "3", .list [.list [.float 0, .float 0x7ff0000000000000]]), (.str "cls", .str "<class 'A'>")]) :=
  (json_roundtrip _ (by simp [KeysOk, KeysOkKvs, KeysOkList])
    (by simp [KeysDistinct, KeysDistinctKvs, KeysDistinctList, keysOf, renderKey, jsonKey]; decide)
    (by simp [WellShaped, WellShapedKvs, WellShapedList, prod])).1

/-- Hypothesis (i) is needed: a key such as `np.int64(1)` or a tuple makes `json.dump` raise TypeError
(no file content is produced). -/
theorem json_bad_key_fails_without :
    jsonEncode jsonChain jsonFallback (.dict [(.bad, .int 1)]) = .error .type := by rfl

/-- Hypothesis (ii) is needed: `{1: 0, "1": 5}` is written with two members "1" and `json.load` returns one. -/
theorem json_duplicate_keys_fails_without :
    jsonRoundTrip jsonChain jsonFallback (.dict [(.int 1, .int 0), (.str "1", .int 5)]) =
      .ok (.dict [(.str "1", .int 5)]) := by rfl

/-- Hypothesis (iii) is a representation invariant: a tree whose array has the wrong number of elements denotes no
numpy array and is rejected by the model instead of being "round-tripped". -/
theorem json_wellshaped_fails_without :
    jsonRoundTrip jsonChain jsonFallback (.ndarray .float [2, 2] [.float 0]) = .error .malformed := by rfl

/-- A dictionary that already consists of native JSON values (None, bool, int, float incl. NaN/±inf, str,
lists, string-keyed dicts with distinct keys) reads back identical — value by value, in order. -/
theorem json_plain_identity (t : Tree) (h : IsJson t) (hd : KeysDistinct t) :
    jsonRoundTrip jsonChain jsonFallback t = .ok t := by
  obtain ⟨hc, hk, hw⟩ := isJson_spec t h
  rw [jsonRoundTrip_eq_canon dispatch_spec t hk hd hw, hc]

example : jsonRoundTrip jsonChain jsonFallback
    (.dict [(.str "a", .list [.float 0x7ff8000000000000, .none, .int (-3)]), (.str "b", .dict [])]) =
    .ok (.dict [(.str "a", .list [.float 0x7ff8000000000000, .none, .int (-3)]), (.str "b", .dict [])]) :=
  json_plain_identity _ (by simp [IsJson, IsJsonKvs, IsJsonList])
    (by simp [KeysDistinct, KeysDistinctKvs, KeysDistinctList, keysOf, renderKey, jsonKey])

/-- Saving what was read back gives the same file again (the canonical form is a fixed point). -/
theorem json_canon_idempotent (t : Tree) (h : KeysOk t) : canon (canon t) = canon t :=
  (isJson_spec _ (canon_isJson t h)).1

example : canon (canon (.tuple [.npInt 2, .npBool true])) = canon (.tuple [.npInt 2, .npBool true]) :=
  json_canon_idempotent _ (by simp [KeysOk, KeysOkList])

/-- numpy integer and floating scalars read back as the Python number with the same value: the integer itself,
and the binary64 pattern of `float(x)` (any pattern: NaN, +inf, −inf, −0.0 included). -/
theorem json_scalars_numbers (i : Int) (k : FKind) (bits : Nat) (e : Option String) :
    jsonEncode jsonChain jsonFallback (.npInt i) = .ok (.int i) ∧
    jsonEncode jsonChain jsonFallback (.npFloat k bits e) = .ok (.float bits) :=
  ⟨jsonEncode_eq_canon dispatch_spec (.npInt i) trivial trivial,
   jsonEncode_eq_canon dispatch_spec (.npFloat k bits e) trivial trivial⟩

/-- An array of any shape reads back as nested lists whose leaves are exactly the array's elements in C order:
nothing lost, duplicated or reordered (for elements that are native scalars, as `tolist` produces them). -/
theorem json_array_values_preserved (dt : DT) (shape : List Nat) (flat : List Tree)
    (hflat : ∀ x ∈ flat, IsJson x ∧ IsLeaf x) (hlen : flat.length = prod shape) :
    ∃ j, jsonEncode jsonChain jsonFallback (.ndarray dt shape flat) = .ok j ∧ leaves j = flat := by
  obtain ⟨hc, hk, hw⟩ := isJsonList_spec flat ((isJsonList_iff flat).2 fun x hx => (hflat x hx).1)
  refine ⟨_, jsonEncode_eq_canon dispatch_spec (.ndarray dt shape flat) hk ⟨hlen, hw⟩, ?_⟩
  show leaves (nest shape (canonList flat)) = flat
  rw [hc, leaves_nest shape flat (fun x hx => (hflat x hx).2) hlen]

example : ∃ j, jsonEncode jsonChain jsonFallback
    (.ndarray .float [3, 2] [.float 1, .float 2, .float 3, .float 4, .float 5, .float 6]) = .ok j ∧
    leaves j = [.float 1, .float 2, .float 3, .float 4, .float 5, .float 6] :=
  json_array_values_preserved _ _ _ (by simp [IsJson, IsLeaf]) (by simp [prod])

/-- A one-dimensional array of native scalars reads back as exactly the flat list of its elements. -/
theorem json_array_1d (dt : DT) (flat : List Tree) (hflat : ∀ x ∈ flat, IsJson x) :
    jsonEncode jsonChain jsonFallback (.ndarray dt [flat.length] flat) = .ok (.list flat) := by
  obtain ⟨hc, hk, hw⟩ := isJsonList_spec flat ((isJsonList_iff flat).2 hflat)
  rw [jsonEncode_eq_canon dispatch_spec (.ndarray dt [flat.length] flat) hk ⟨(Nat.mul_one _).symm, hw⟩]
  show Except.ok (nest [flat.length] (canonList flat)) = _
  rw [hc, nest_1d]

example : jsonEncode jsonChain jsonFallback (.ndarray .float [3] [.float 1, .float 0x7ff8000000000000, .float 3]) =
    .ok (.list [.float 1, .float 0x7ff8000000000000, .float 3]) :=
  json_array_1d .float [.float 1, .float 0x7ff8000000000000, .float 3] (by simp [IsJson])

/-- **Partial** (a finding, stated as a theorem): structured arrays other than `posterior_samples` are written
as bare rows, so two arrays that differ only in their field names produce the same JSON file — the names of
`nested_samples` / `samples` / `training_samples` cannot be recovered from a JSON result. -/
theorem json_structured_forgets_names_partial (n1 n2 : List String) (nrows : Nat) (cells : List Tree)
    (h : n1.length = n2.length) :
    jsonEncode jsonChain jsonFallback (.structured n1 nrows cells) =
    jsonEncode jsonChain jsonFallback (.structured n2 nrows cells) := by
  rw [jsonEncode_structured, jsonEncode_structured, h]

example : jsonEncode jsonChain jsonFallback (.structured ["x", "logL"] 1 [.float 1, .float 2]) =
    jsonEncode jsonChain jsonFallback (.structured ["y", "logP"] 1 [.float 1, .float 2]) :=
  json_structured_forgets_names_partial _ _ _ _ rfl

/-- **Partial** (a finding): a `np.bool_` is neither `np.integer` nor `np.floating`, so it falls through to
`str(obj)` and reads back as the string "True"/"False", not as a boolean. -/
theorem json_npbool_becomes_string_partial (b : Bool) :
    jsonEncode jsonChain jsonFallback (.npBool b) = .ok (.str (pyBoolStr b)) :=
  jsonEncode_eq_canon dispatch_spec (.npBool b) trivial trivial

/-- **Configuration file.**  Keyword arguments reach `save_kwargs` as a dict with distinct string keys.  Whatever
the values are — classes, pools, callbacks (opaque), numpy values, nested containers with json-acceptable,
distinct keys — `save_kwargs` writes a file that the standard JSON reader reads: the write never raises and what
`json.load` returns is native JSON. -/
theorem save_kwargs_readable (kwargs : List (Key × Tree)) (eps dtype ins : Tree)
    (hs : StrKeys kwargs) (hn : (keysOf kwargs).Nodup)
    (hk : KeysOkKvs kwargs) (hd : KeysDistinctKvs kwargs) (hw : WellShapedKvs kwargs)
    (hx : ∀ v ∈ [eps, dtype, ins], KeysOk v ∧ KeysDistinct v ∧ WellShaped v) :
    ∃ j, jsonRoundTrip jsonChain jsonFallback (kwargsDict (kwargsExtraKeys.zip [eps, dtype, ins]) kwargs) = .ok j ∧
      IsJson j := by
  obtain ⟨hok, hdist, hws⟩ := kwargsDict_ok (kwargsExtraKeys.zip [eps, dtype, ins]) kwargs hs hn hk hd hw
    fun e hmem => hx e.2 (List.of_mem_zip hmem).2
  exact ⟨_, jsonRoundTrip_eq_canon dispatch_spec _ hok hdist hws, canon_isJson _ hok⟩

example : ∃ j, jsonRoundTrip jsonChain jsonFallback (kwargsDict (kwargsExtraKeys.zip [.none, .opaque "torch.float32", .bool false])
    [(.str "pool", .opaque "<multiprocessing.pool.Pool state=RUN pool_size=2>"),
     (.str "flow_config", .dict [(.str "model_config", .dict [(.str "ftype", .opaque "<class 'F'>")])]),
     (.str "nlive", .npInt 100)]) = .ok j ∧ IsJson j :=
  save_kwargs_readable _ _ _ _
    (by intro k hk; simp [keysOf] at hk; rcases hk with h | h | h <;> exact ⟨_, h⟩)
    (by simp [keysOf])
    (by simp [KeysOkKvs, KeysOk])
    (by simp [KeysDistinctKvs, KeysDistinct, keysOf, renderKey, jsonKey])
    (by simp [WellShapedKvs, WellShaped])
    (by simp [KeysOk, KeysDistinct, WellShaped])

/-- **HDF5 round trip** — about `h5WriteFull`, the writer the real code is tied to (values converted by
numpy/h5py, then names linked, in write order).  For every nested dictionary (i) whose keys are distinct strings
that are single path segments (non-empty, no '/', not "."), with no empty sub-dictionary and no genuine string
equal to the sentinel, and (ii) whose every leaf is writable by numpy/h5py (`LeavesOk`: the assumed table
`h5LeafToks` accepts its stored form — no arbitrary object, no None or ragged rows inside a list, …):
the write succeeds, it produces the same container as the container-level writer `h5Write`, reading groups as
dictionaries and datasets as stored values (sentinel → None) gives back the same dictionary — same keys at every
level, same stored value at every leaf, None preserved — and every dataset has a canonical read-back form.
"Same value at a leaf" is up to what h5py stores for it (list → array, int → int64, …): that canonicalisation is
the assumed table, validated by the correspondence, not proved. -/
theorem hdf5_roundtrip (kvs : List (Key × Tree)) (h : H5SafeKvs h5Sentinel kvs) (hl : LeavesOkKvs h5Sentinel kvs) :
    h5RoundTripFull h5Sentinel kvs = .ok (.dict kvs) ∧
    ∃ f toks, h5WriteFull h5Sentinel kvs = .ok f ∧ h5Write h5Sentinel kvs = .ok f ∧
      h5ReadToksKids h5Sentinel f = .ok toks :=
  h5RoundTripFull_safe h5Sentinel kvs h hl

example : h5RoundTripFull h5Sentinel [(.str "log_evidence", .npFloat .f64 0 none), (.str "bootstrap_log_evidence", .none),
    (.str "history", .dict [(.str "logZ", .list [.float 0]), (.str "stopping_criteria", .dict [(.str "ratio", .list [])])])] =
    .ok (.dict [(.str "log_evidence", .npFloat .f64 0 none), (.str "bootstrap_log_evidence", .none),
    (.str "history", .dict [(.str "logZ", .list [.float 0]), (.str "stopping_criteria", .dict [(.str "ratio", .list [])])])]) :=
  (hdf5_roundtrip _
    (by
      -- what is left after unfolding: each of the six keys is a single path segment
      simp [H5SafeKvs, H5Safe, keysOf]
      refine ⟨?_, ?_, ?_, ?_, ?_, ?_⟩ <;> exact segs_ofList _ (by decide) nofun (by decide))
    (by simp [LeavesOkKvs, LeavesOk]; decide)).1

/-- The syntactic condition that makes a key a single path segment. -/
theorem key_single_segment (k : String) (h1 : '/' ∉ k.toList) (h2 : k ≠ "") (h3 : k ≠ ".") : segs k = [k] :=
  segs_single k h1 h2 h3

-- the theorem applied as it stands; for one short key the `decide`s through the literal's bytes are affordable (elsewhere:
-- `segs_ofList`)
example : segs "log_evidence" = ["log_evidence"] :=
  key_single_segment "log_evidence" (by decide) (by decide) (by decide)

/-- `None` entries survive at any depth: written as the sentinel string, read back as `None`. -/
theorem none_roundtrip (k1 k2 : String) (h1 : segs k1 = [k1]) (h2 : segs k2 = [k2]) (hk : k1 ≠ k2) :
    h5RoundTripFull h5Sentinel [(.str k1, .none), (.str k2, .dict [(.str k1, .none)])] =
      .ok (.dict [(.str k1, .none), (.str k2, .dict [(.str k1, .none)])]) := by
  refine (hdf5_roundtrip _ ?_ ?_).1
  · simp [H5SafeKvs, H5Safe, keysOf, h1, h2, hk]
  · simp [LeavesOkKvs, LeavesOk]; decide

example : h5RoundTripFull h5Sentinel [(.str "bootstrap_log_evidence", .none), (.str "b", .dict [(.str "bootstrap_log_evidence", .none)])] =
    .ok (.dict [(.str "bootstrap_log_evidence", .none), (.str "b", .dict [(.str "bootstrap_log_evidence", .none)])]) :=
  have h1 : segs "bootstrap_log_evidence" = ["bootstrap_log_evidence"] := segs_ofList _ (by decide) nofun (by decide)
  have h2 : segs "b" = ["b"] := segs_ofList _ (by decide) nofun (by decide)
  none_roundtrip _ _ h1 h2 (by decide)

/-- `hdf5_roundtrip` needs "no genuine string equals the sentinel": the string "__none__" reads back as None. -/
theorem sentinel_string_fails_without :
    h5RoundTripFull h5Sentinel [(.str "a", .str h5Sentinel)] = .ok (.dict [(.str "a", .none)]) := by rfl

/-- `hdf5_roundtrip` needs "no empty sub-dictionary": an empty dict writes nothing, its key is lost. -/
theorem empty_dict_fails_without :
    h5RoundTripFull h5Sentinel [(.str "a", .dict []), (.str "b", .int 1)] = .ok (.dict [(.str "b", .int 1)]) := by rfl

/-- `hdf5_roundtrip` needs slash-free keys: a key "a/b" comes back as a nested dictionary … -/
theorem slash_key_fails_without :
    h5RoundTripFull h5Sentinel [(.str "a/b", .int 1)] = .ok (.dict [(.str "a", .dict [(.str "b", .int 1)])]) := by rfl

/-- … two different dictionaries produce the same file, and together with the nested spelling the write fails
(`OSError: name already exists`). -/
theorem slash_key_collides :
    h5RoundTripFull h5Sentinel [(.str "a/b", .int 1)] = h5RoundTripFull h5Sentinel [(.str "a", .dict [(.str "b", .int 1)])] ∧
    h5RoundTripFull h5Sentinel [(.str "a/b", .int 1), (.str "a", .dict [(.str "b", .int 2)])] = .error .os := by
  constructor <;> rfl

/-- an int key makes the HDF5 writer raise TypeError (`path + key`) -/
theorem hdf5_nonstr_key_fails_without (i : Int) (v : Tree) (rest : List (Key × Tree)) :
    h5RoundTripFull h5Sentinel ((.int i, v) :: rest) = .error .type := by
  simp [h5RoundTripFull, h5WriteFull, flattenP, writeSeq]

example : h5RoundTripFull h5Sentinel [(.int 1, .float 0)] = .error .type := hdf5_nonstr_key_fails_without 1 _ _

/-- `hdf5_roundtrip` needs writable leaves (known finding): `None` is encoded only as a direct dictionary value,
a list holding a None entry makes the writer raise TypeError — although the container-level writer would accept it. -/
theorem none_in_list_fails_without :
    h5RoundTripFull h5Sentinel [(.str "a", .list [.float 0, .none])] = .error .type ∧
    ∃ f, h5Write h5Sentinel [(.str "a", .list [.float 0, .none])] = .ok f :=
  ⟨by rfl, _, by rfl⟩

/-- `hdf5_roundtrip` needs writable leaves (known finding): rows of unequal length make the writer raise ValueError. -/
theorem ragged_list_fails_without :
    h5RoundTripFull h5Sentinel [(.str "a", .list [.list [.int 1, .int 2], .list [.int 3]])] = .error .value := by rfl

/-- `hdf5_roundtrip` needs writable leaves: an arbitrary object (class, pool, callback) makes the writer raise TypeError. -/
theorem opaque_leaf_fails_without :
    h5RoundTripFull h5Sentinel [(.str "a", .opaque "<class 'A'>")] = .error .type := by rfl

/-- **Extension handling.**  All three spellings select the documented writer, whether given through
`extension=` (appended to a bare file name) or taken from the file name. -/
theorem extension_cases :
    saveTarget extTable "" (some "json") = .ok (.json, true) ∧
    saveTarget extTable "" (some "hdf5") = .ok (.hdf5, true) ∧
    saveTarget extTable "" (some "h5") = .ok (.hdf5, true) ∧
    saveTarget extTable "json" none = .ok (.json, false) ∧
    saveTarget extTable "hdf5" none = .ok (.hdf5, false) ∧
    saveTarget extTable "h5" none = .ok (.hdf5, false) ∧
    saveTarget extTable "" none = .error .runtime :=
  ⟨rfl, rfl, rfl, rfl, rfl, rfl, rfl⟩

/-- Any other extension is rejected with RuntimeError, never silently written in some format. -/
theorem unknown_extension_rejected (e fe : String) (h : e ∉ ["json", "hdf5", "h5"]) :
    saveTarget extTable fe (some e) = .error .runtime := by
  simp only [List.mem_cons, List.mem_nil_iff, or_false, not_or] at h
  simp [saveTarget, resolveExt, extTable, formatOf, h.1, h.2.1, h.2.2]

example : saveTarget extTable "" (some "txt") = .error .runtime :=
  unknown_extension_rejected "txt" "" (by decide)

end NessaiVerif.C19
