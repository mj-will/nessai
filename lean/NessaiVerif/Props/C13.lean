import NessaiVerif.Gen.Interrupt
import NessaiVerif.Proofs.Interrupt
/-
C13 — a termination signal at any instant leaves a consistent, resumable state.

`Gen.Interrupt.consumeOrder` is the order of the state-mutating statements of one iteration of the
standard sampler, extracted from the current source on every run; `Gen.Interrupt.insGuardFirst` records
that `ImportanceNestedSampler.checkpoint` returns before writing when it is not a periodic checkpoint.
The property is FALSE for the code as it stands inside a window of the iteration (known finding F4):
both directions are proved — safe outside the window, inconsistent inside it, for every state.

GRANULARITY AND WHAT IS NOT SHOWN
* An instant is a boundary between two of the seven state-mutating statements of `consume_sample` /
  `insert_live_point` (`Tag`); `state.increment(...)` is ONE step of the model.  "Window exact" therefore means exact
  at that granularity.  On the real code the window opens earlier, at the first mutating statement INSIDE
  `_NSIntegralState.increment` (`self.nlive.append`): the harness interrupts before every statement line of
  `increment` too, finds every later line of it unsafe (integrator lists of unequal length after the restart) and
  routes those to the same known finding F4; the lines before that statement are compared with the model as "only
  `logLmin` assigned".  Interruptions inside a single Python statement are not enumerated.
* `ins_handler_noop` is about the generated flag `insGuardFirst` (first statement of `ImportanceNestedSampler.checkpoint`
  is a guard taken for `periodic=False` that returns without calling anything that writes); that the boundary
  checkpoint on disk stays byte-identical is checked on the real sampler by the harness.
* "The checkpoint is written before exit", "the exit code is the configured one", "the pool is closed" are checked by
  the harness with a real SIGTERM to a child process; no theorem states them.
* The flow-proposal phase (pool of pre-drawn samples, training inside `check_state`) is not in the model; the same
  interruption experiment is run on a real flow-phase sampler and judged by the oracle only.
-/
namespace NessaiVerif.C13
open NessaiVerif.Interrupt NessaiVerif.Gen.Interrupt

/-- the source still executes the mutating statements in the order the theorems are about -/
theorem order_is_canonical : consumeOrder = canonicalOrder := by decide

/-- An uninterrupted iteration keeps the state consistent (full live set, no duplicate, each discarded
point recorded and integrated once, counts agree). -/
theorem uninterrupted_consistent (n : Nat) (s : NS) (p : Pt) (h : consistent n s = true)
    (hp : validCand s p = true) : consistent n (consume consumeOrder s p) = true := by
  rw [order_is_canonical]
  exact consistent_iff.mpr (consume_consistent (consistent_iff.mp h) hp)

/-- **Safe points.**  A signal before the evidence is incremented (at most the `logLmin` assignment done) or
after the insertion index has been recorded leaves a checkpoint from which the resumed iteration is
consistent, for every consistent state and every admissible candidate.  `j` counts the statements of
`canonicalOrder` already executed: `.increment` is the 2nd, `.idx` the 7th and last. -/
theorem safe_outside_window (n : Nat) (s : NS) (p p' : Pt) (j : Nat) (h : consistent n s = true)
    (hp : validCand s p = true)
    (hp' : validCand (runTags s p (consumeOrder.take j)) p' = true)
    (hj : j ≤ 1 ∨ 7 ≤ j) :
    consistent n (interruptResume consumeOrder s p p' j) = true := by
  rw [order_is_canonical] at hp' ⊢
  have hc := consistent_iff.mp h
  unfold interruptResume
  rcases hj with hj | hj
  · -- nothing but `logLmin` has changed: the pickled state is consistent
    obtain ⟨m, hm⟩ := runTags_take_le_one s p hj
    rw [hm] at hp' ⊢
    exact consistent_iff.mpr (consume_consistent (hc.set_logLmin m) hp')
  · -- the iteration had completed: two complete iterations
    rw [List.take_of_length_le (show canonicalOrder.length ≤ j from hj)] at hp' ⊢
    exact consistent_iff.mpr (consume_consistent (consume_consistent hc hp) hp')

/-- **The unsafe window (F4).**  A signal after the evidence increment and before the insertion index is
recorded ALWAYS leaves a checkpoint whose resumed run is inconsistent (the worst point is integrated or
recorded twice, or an insertion index is missing) — for every consistent state with a non-empty live set. -/
theorem unsafe_inside_window (n : Nat) (s : NS) (p p' : Pt) (j : Nat) (h : consistent n s = true)
    (hne : s.live ≠ []) (hj : 2 ≤ j ∧ j ≤ 6) :
    consistent n (interruptResume consumeOrder s p p' j) = false := by
  rw [order_is_canonical]
  obtain ⟨w, rest, hl⟩ := List.exists_cons_of_ne_nil hne
  have hc := consistent_iff.mp h
  apply Bool.eq_false_iff.mpr
  intro hcon
  have hr : Consistent n (consume canonicalOrder (runTags s p (canonicalOrder.take j)) p') := consistent_iff.mp hcon
  -- the pickled state has one more evidence term than insertion indices, and the resumed iteration keeps the difference
  obtain ⟨he, hi⟩ := interrupted_evid_idx hl p hj
  have hoff := consume_evid_idx (runTags s p (canonicalOrder.take j)) p'
  rw [he, hi, List.length_append, List.length_singleton] at hoff
  have := hr.evidLen.trans hr.idxLen.symm
  have := hc.evidLen.trans hc.idxLen.symm
  omega

/-- the window is exact on a concrete run: interruption points 0..7 of one iteration of a 3-point live set.  Evaluated, not
derived: the list is what `safe_outside_window` and `unsafe_inside_window` predict for this state. -/
theorem window_exact :
    (List.range 8).map (fun j => consistent 3
      (interruptResume consumeOrder
        { live := [⟨1, 1⟩, ⟨3, 2⟩, ⟨5, 3⟩], nested := [⟨0, 9⟩], evid := [0], idx := [2], iter := 1 }
        ⟨4, 4⟩ ⟨6, 5⟩ j))
    = [true, true, false, false, false, false, false, true] := by decide +kernel

/-- F4 spelled out: interrupted between "record worst" and "insert replacement", the resumed run records and
integrates the worst point twice -/
theorem double_record_witness :
    (interruptResume consumeOrder
        { live := [⟨1, 1⟩, ⟨3, 2⟩, ⟨5, 3⟩], nested := [], evid := [], idx := [], iter := 0 }
        ⟨4, 4⟩ ⟨6, 5⟩ 4).nested = [⟨1, 1⟩, ⟨1, 1⟩] := by decide +kernel

/-- Importance sampler: the signal handler's checkpoint request (`periodic = False`) returns before any write,
so the last iteration-boundary checkpoint is left intact. -/
theorem ins_handler_noop (file newState : Nat) :
    insCheckpoint insGuardFirst false file newState = file := by
  simp [insCheckpoint, insGuardFirst]

/-- … and the guard is what makes it so -/
theorem ins_handler_noop_fails_without : insCheckpoint false false 1 2 ≠ 1 := by decide

/-- finalisation records and integrates every remaining live point exactly once.
DEFINITIONAL: this restates the model's `finalise`. -/
theorem finalise_consumes_all (s : NS) :
    (finalise s).live = [] ∧ (finalise s).nested = s.nested ++ s.live ∧
    (finalise s).evid = s.evid ++ keys s.live := by
  simp [finalise]

/-- non-vacuity: the state and first candidate of `window_exact` meet `consistent` and `validCand`, the hypotheses `h` and
`hp` of `uninterrupted_consistent` and `safe_outside_window` -/
example : consistent 3 { live := [⟨1, 1⟩, ⟨3, 2⟩, ⟨5, 3⟩], nested := [⟨0, 9⟩], evid := [0], idx := [2], iter := 1 } = true
    ∧ validCand { live := [⟨1, 1⟩, ⟨3, 2⟩, ⟨5, 3⟩], nested := [⟨0, 9⟩], evid := [0], idx := [2], iter := 1 } ⟨4, 4⟩ = true := by
  decide +kernel

/-- the current source binds `self.live_points` only after the draw loop of `populate_live_points` (table fact,
regenerated on every run) -/
theorem populate_publishes_after_fill : populatePublishesAfterFill = true := by decide

/-- **A signal during the initial population is safe.**  Whatever number `k` of initial draws had been made, the
handler's checkpoint holds `live_points = None`; the resumed run draws its initial points again and starts from a full,
NaN-free live set in ascending likelihood order (for every `n`, every draw sequence of the killed and of the new
process). -/
theorem signal_during_population_safe (n : Nat) (draws draws' : List Pt) (k : Nat) (hn : draws'.length = n) :
    populatePickled populatePublishesAfterFill n draws k = none ∧
      fullLive n (populateResumed populatePublishesAfterFill n draws draws' k) = true := by
  rw [populate_publishes_after_fill]
  refine ⟨rfl, ?_⟩
  simp only [populateResumed, populatePickled, fullLive, if_true]
  have hs := sortPts_sorted draws'
  simp [(sortPts_perm draws').length_eq, hn, List.filterMap_map, hs]

example := signal_during_population_safe 2 [⟨1, 1⟩, ⟨2, 2⟩] [⟨5, 7⟩, ⟨3, 8⟩] 1 rfl

/-- …and it would not be if the half-filled array were bound first (the shape of the seeded change C13-d): a signal after
one of three draws leaves a checkpoint whose live set has NaN rows, and the resumed run keeps it. -/
theorem signal_during_population_fails_without :
    fullLive 3 (populateResumed false 3 [⟨4, 1⟩, ⟨2, 2⟩, ⟨9, 3⟩] [⟨5, 7⟩, ⟨3, 8⟩, ⟨1, 9⟩] 1) = false := by decide

/-- **Nothing on the way swallows the handler's exit** (table fact, regenerated from every module of the package on every
run): no `except:` / `except BaseException` / `except SystemExit` / `except KeyboardInterrupt` clause without a bare
re-raise exists, so the `SystemExit(exit_code)` the handler raises — wherever in the loop, the plots or the training the
signal arrives — propagates to the interpreter.  (That the process then ends with that code is observed with real signals,
including one delivered while the periodic plots are drawn.) -/
theorem no_exit_swallowers : exitSwallowers = [] := by decide

end NessaiVerif.C13
