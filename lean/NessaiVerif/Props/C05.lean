import NessaiVerif.Model.Results
import NessaiVerif.Gen.Results
import NessaiVerif.Gen.InsState
import NessaiVerif.Proofs.Results
import NessaiVerif.Proofs.ResultsQuad
import NessaiVerif.Proofs.ListSum
import NessaiVerif.Props.C03
import NessaiVerif.Props.C04
/-
C05 — returned results are mutually consistent and faithful to the model.

Standard sampler: `Results.NS` (Model/Results.lean) is the bookkeeping of `NestedSampler` that determines
what is returned; `Reachable n s` = "populated with n live points, then any number of `consume_sample`
calls"; `nestedSamplingLoop maxIt s below steps` = one call of `nested_sampling_loop` from that state;
`runSegments s segs` = a chain of such calls (the run resumed and run again, finished, capped or not).
Resuming enters the theorems as the identity on this state.  That is true for a checkpoint written at an
ITERATION BOUNDARY (the periodic checkpoint in `update_state`, the final one in `nested_sampling_loop`) — the
only kind the tie of harness/c05.py produces.  It is FALSE for a checkpoint written in the middle of
`consume_sample` (a signal handler firing between `state.increment(worst)` and the insertion — known finding
F4, property C13 — or `checkpoint_on_training=True` checkpointing from `train_proposal` inside
`consume_sample` — known finding F25, property C12): a run resumed from such a file records the worst point
twice.  Those histories are outside these theorems.
Importance sampler: `insZ`/`insPostW`/`insVar` are `_INSIntegralState` in the linear domain; the theorems
about them are consequences of those definitions (definitional + algebra), tied to the code by the
correspondence and the oracle of harness/c05.py, which recompute them from the returned samples of real runs.
Result tables: `sameSource` compares the SYNTAX of the translated source expressions (after inlining and
resolving conditionals), not run-time values; equality of the values is what the harness checks on real runs.
PARTIAL: the clause "stored logL/logP equal the model evaluated at the sample" speaks about the user's
function; only its bookkeeping half is a theorem (`stored_values_are_evaluated_values_partial`), the rest is
checked by the oracle on real runs.
-/
namespace NessaiVerif.C05
open NessaiVerif.Results NessaiVerif.Quad

section standard
variable {K : Type} [LinearOrder K]

/-- **Counts.**  A completed `nested_sampling_loop` returns `iterations + nlive` nested samples when it
finalised, and exactly `iterations` when it did not — and it can only end un-finalised because the
iteration cap was reached with the stopping test still false.  Any reachable start state (fresh or resumed
at an iteration boundary), any cap, any candidate streams. -/
theorem nested_count (n : Nat) (s : NS K) (hs : Reachable n s) (maxIt : Option Nat) (below : Bool)
    (steps : List (List K × Bool)) (r : NS K) (h : nestedSamplingLoop maxIt s below steps = .ok r) :
    r.nested.length = r.iteration + (if r.finalised then n else 0) ∧
      (r.finalised = false → capReached maxIt r.iteration = true) := by
  have sp := run_spec hs h
  exact ⟨sp.count, sp.cut⟩

/-- a concrete finalised run (3 live points, 2 iterations) … -/
theorem demoRun : nestedSamplingLoop (K := Int) none (populate [3, 1, 2]) false [([0, 5], false), ([1, 4], true)] =
    .ok ⟨3, none, [⟨1, 0⟩, ⟨2, 0⟩, ⟨3, 0⟩, ⟨4, 2⟩, ⟨5, 1⟩],
      [(1, none), (2, none), (3, some 3), (4, some 2), (5, some 1)], 2, true⟩ := by decide +kernel

example : nestedSamplingLoop (K := Int) none (populate [3, 1, 2]) false [([0, 5], false), ([1, 4], true)] =
    .ok ⟨3, none, [⟨1, 0⟩, ⟨2, 0⟩, ⟨3, 0⟩, ⟨4, 2⟩, ⟨5, 1⟩],
      [(1, none), (2, none), (3, some 3), (4, some 2), (5, some 1)], 2, true⟩ := demoRun

/-- … and the theorem applied to it, and to the same run cut short by `max_iteration = 1` -/
example : ∃ r : NS Int, r.nested.length = r.iteration + (if r.finalised then 3 else 0) ∧ r.finalised = true :=
  ⟨_, (nested_count 3 _ (.pop _ rfl) none false _ _ demoRun).1, rfl⟩

example (r : NS Int)
    (h : nestedSamplingLoop (some 1) (populate [3, 1, 2]) false [([0, 5], false), ([1, 4], true)] = .ok r)
    (hcut : r.finalised = false) : capReached (some 1) r.iteration = true :=
  (nested_count 3 _ (.pop _ rfl) (some 1) false _ r h).2 hcut

example : (nestedSamplingLoop (K := Int) (some 1) (populate [3, 1, 2]) false [([0, 5], false), ([1, 4], true)]).toOption.map
    (fun r => (r.nested.map (·.logL), r.iteration, r.finalised)) = some ([1], 1, false) := by decide +kernel

/-- **Order.**  The returned nested samples have non-decreasing log-likelihoods. -/
theorem nested_sorted (n : Nat) (s : NS K) (hs : Reachable n s) (maxIt : Option Nat) (below : Bool)
    (steps : List (List K × Bool)) (r : NS K) (h : nestedSamplingLoop maxIt s below steps = .ok r) :
    r.nested.Pairwise (fun a b => a.logL ≤ b.logL) :=
  (run_spec hs h).sorted

example (r : NS Int)
    (h : nestedSamplingLoop none (populate [3, 1, 2]) false [([0, 5], false), ([1, 4], true)] = .ok r) :
    r.nested.Pairwise (fun a b => a.logL ≤ b.logL) :=
  nested_sorted 3 _ (.pop _ rfl) none false _ r h

/-- The acceptance rule `logL > logLmin` is what keeps the order: a candidate at or below the current
minimum cannot even be inserted (NumPy's slice assignment in `insert_live_point` fails), and the rule never
lets one through. -/
theorem nested_sorted_fails_without :
    insertLive (K := Int) [⟨2, 0⟩, ⟨3, 0⟩] ⟨2, 1⟩ = .error .shapeErr ∧
      (consume (K := Int) (populate [2, 3]) [2, 1]).toOption = none := by decide +kernel

/-- **Birth likelihoods.**  For every returned sample `p`, `logLs[p.it]` — the entry of the integral
state's likelihood record that `birth_log_likelihoods` reads — exists and lies strictly below `p.logL`:
initial points carry `it = 0` and `logLs[0] = -inf`; a replacement inserted in iteration `it` was accepted
strictly above `logLs[it] = logLmin`. -/
theorem birth_lt (n : Nat) (s : NS K) (hs : Reachable n s) (maxIt : Option Nat) (below : Bool)
    (steps : List (List K × Bool)) (r : NS K) (h : nestedSamplingLoop maxIt s below steps = .ok r) :
    ∀ p ∈ r.nested, ∃ b, r.logLs[p.it]? = some b ∧ ltExt b p.logL :=
  (run_spec hs h).birth

example (r : NS Int)
    (h : nestedSamplingLoop none (populate [3, 1, 2]) false [([0, 5], false), ([1, 4], true)] = .ok r) :
    ∀ p ∈ r.nested, ∃ b, r.logLs[p.it]? = some b ∧ ltExt b p.logL :=
  birth_lt 3 _ (.pop _ rfl) none false _ r h

example : (nestedSamplingLoop (K := Int) none (populate [3, 1, 2]) false [([0, 5], false), ([1, 4], true)]).toOption.map
    (fun r => (r.nested.map (·.it), r.births)) =
      some ([0, 0, 0, 2, 1], [some none, some none, some none, some (some 2), some (some 1)]) := by decide +kernel

/-- **The integral state sees exactly the returned samples.**  After a completed loop the likelihood
record of the state is `-inf` followed by the returned nested samples' likelihoods in order, and the live
counts it was given are `n,…,n` (one per iteration) followed, when finalised, by `n, n-1, …, 1`. -/
theorem state_sees_returned_samples (n : Nat) (s : NS K) (hs : Reachable n s) (maxIt : Option Nat) (below : Bool)
    (steps : List (List K × Bool)) (r : NS K) (h : nestedSamplingLoop maxIt s below steps = .ok r) :
    r.logLs = none :: r.nested.map (fun p => some p.logL) ∧
      r.nliveSeen = if r.finalised then scheduleIncr r.iteration n else List.replicate r.iteration n := by
  have sp := run_spec hs h
  have hL := congrArg (List.map some) sp.callsL
  simp only [List.map_map] at hL
  exact ⟨congrArg (none :: ·) hL, sp.callsN⟩

example (r : NS Int)
    (h : nestedSamplingLoop none (populate [3, 1, 2]) false [([0, 5], false), ([1, 4], true)] = .ok r) :
    r.logLs = none :: r.nested.map (fun p => some p.logL) :=
  (state_sees_returned_samples 3 _ (.pop _ rfl) none false _ r h).1

example : (nestedSamplingLoop (K := Int) none (populate [3, 1, 2]) false [([0, 5], false), ([1, 4], true)]).toOption.map
    (fun r => (r.logLs, r.nliveSeen)) =
      some ([none, some 1, some 2, some 3, some 4, some 5], [3, 3, 3, 2, 1]) := by decide +kernel

/-- **Evidence and weights are recomputable from the returned samples alone.**  Let `lin` map a
log-likelihood to the linear domain (`exp`; any function will do) and `shrink` be the expected shrinkage
per live count (either expectation mode).  The integral state that saw the run's `increment` calls reports
* finalised run: exactly what the one-pass `compute_weights(returned logL, nlive)` returns — the documented
  quadrature `evidence`/`weights` of the returned likelihoods on the schedule `n,…,n,n,n-1,…,1`;
* run cut short by the cap: the running rectangle sum over the returned likelihoods with constant `n`
  (`log_evidence`), and the weights of the quadrature on that schedule (`log_posterior_weights`).
Nothing but the returned likelihoods and `nlive` enters. -/
theorem evidence_recomputable {F : Type} [Field F] (shrink : Nat → F) (lin : K → F)
    (n : Nat) (hn : 1 ≤ n) (s : NS K) (hs : Reachable n s) (maxIt : Option Nat) (below : Bool)
    (steps : List (List K × Bool)) (r : NS K) (h : nestedSamplingLoop maxIt s below steps = .ok r) :
    let st := (St.init n : St F).incrMany shrink (r.calls.map fun c => (lin c.1, c.2))
    let Ls := r.nested.map fun p => lin p.logL
    (r.finalised = true →
      computeWeights shrink Ls (.int n) = .ok (st.finalise, st.postW) ∧
      st.finalise = evidence Ls ((scheduleIncr r.iteration n).map shrink) ∧
      st.postW = weights Ls ((scheduleIncr r.iteration n).map shrink)) ∧
    (r.finalised = false →
      st.Z = rectOnePass Ls (vols ((List.replicate r.iteration n).map shrink)) ∧
      st.postW = weights Ls ((List.replicate r.iteration n).map shrink)) :=
  evidence_of_spec shrink lin hn (run_spec hs h).toResult

/-- applied: likelihood codes 1..5 read as the rationals 1..5, shrinkage n/(n+1) -/
example (r : NS Int)
    (h : nestedSamplingLoop none (populate [3, 1, 2]) false [([0, 5], false), ([1, 4], true)] = .ok r)
    (hfin : r.finalised = true) :
    computeWeights (tOfN : Nat → ℚ) (r.nested.map fun p => (p.logL : ℚ)) (.int 3) =
      .ok (((St.init 3 : St ℚ).incrMany tOfN (r.calls.map fun c => ((c.1 : ℚ), c.2))).finalise,
           ((St.init 3 : St ℚ).incrMany tOfN (r.calls.map fun c => ((c.1 : ℚ), c.2))).postW) :=
  ((evidence_recomputable (tOfN : Nat → ℚ) (fun x : Int => (x : ℚ)) 3 (by decide) _ (.pop _ rfl) none false _ r h).1 hfin).1

/-- `nlive ≥ 1` is needed: with no live points a "run" that stops at once returns no samples and the
one-pass recomputation has nothing to close the integral with (`samples[-1]` fails). -/
theorem evidence_recomputable_fails_without :
    (nestedSamplingLoop (K := Int) none (populate []) true []).toOption.map (fun r => (r.finalised, r.nested.length)) =
      some (true, 0) ∧
    (computeWeights (K := Rat) tOfN [] (.int 0)).toOption = none := by decide +kernel

/-- **Runs resumed and run again.**  A chain of `nested_sampling_loop` calls — each on the state the previous
one left behind, i.e. the run resumed from a checkpoint written at an iteration boundary and run again, whether
the previous call finalised (then the state is returned unchanged: "Run has already finished!"), was cut
short by its cap (then sampling continues: one more iteration at least) or is the first — hands back a state with
the same guarantees as a single call: count `iterations + (nlive if finalised)`, non-decreasing likelihoods,
births strictly below, and an integral state that saw exactly the returned likelihoods, so evidence and weights
are those of `evidence_recomputable`. -/
theorem resumed_chain_results {F : Type} [Field F] (shrink : Nat → F) (lin : K → F)
    (n : Nat) (hn : 1 ≤ n) (s : NS K) (hs : Reachable n s)
    (segs : List (Option Nat × Bool × List (List K × Bool))) (r : NS K) (h : runSegments s segs = .ok r) :
    r.nested.length = r.iteration + (if r.finalised then n else 0) ∧
    r.nested.Pairwise (fun a b => a.logL ≤ b.logL) ∧
    (∀ p ∈ r.nested, ∃ b, r.logLs[p.it]? = some b ∧ ltExt b p.logL) ∧
    r.calls.map (·.1) = r.nested.map (·.logL) ∧
    (let st := (St.init n : St F).incrMany shrink (r.calls.map fun c => (lin c.1, c.2))
     let Ls := r.nested.map fun p => lin p.logL
     (r.finalised = true → computeWeights shrink Ls (.int n) = .ok (st.finalise, st.postW)) ∧
     (r.finalised = false → st.Z = rectOnePass Ls (vols ((List.replicate r.iteration n).map shrink)))) := by
  have sp := chain_spec hs h
  have ev := evidence_of_spec shrink lin hn sp
  exact ⟨sp.count, sp.sorted, sp.birth, sp.callsL, fun hf => (ev.1 hf).1, fun hf => (ev.2 hf).1⟩

/-- a capped run (1 iteration), resumed: one more iteration under the same cap, resumed again with the cap
lifted: finishes; resumed once more: unchanged -/
example : (runSegments (K := Int) (populate [3, 1, 2])
    [(some 1, false, [([0, 5], false)]), (some 1, false, [([1, 4], false)]), (none, false, [([6], true)]),
     (none, true, [])]).toOption.map (fun r => (r.nested.map (·.logL), r.iteration, r.finalised)) =
      some ([1, 2, 3, 4, 5, 6], 3, true) := by decide +kernel

example (r : NS Int)
    (h : runSegments (populate [3, 1, 2])
      [(some 1, false, [([0, 5], false)]), (some 1, false, [([1, 4], false)]), (none, false, [([6], true)]),
       (none, true, [])] = .ok r) :
    r.nested.length = r.iteration + (if r.finalised then 3 else 0) :=
  (resumed_chain_results (tOfN : Nat → ℚ) (fun x : Int => (x : ℚ)) 3 (by decide) _ (.pop _ rfl) _ r h).1

/-- **Stored likelihoods are evaluated likelihoods** (PARTIAL — the bookkeeping half of "every returned
sample's stored log-likelihood equals the model evaluated at that sample").  No step of the sampler alters or
invents a likelihood value: every point held at the end carries the value of a point held at the start or a
candidate value handed to `consume_sample` by the proposal in one of the iterations.  GAP: that the value the
proposal attached to a candidate IS `model.log_likelihood` (and `log_prior`) at the candidate's parameters is
a statement about user code and the proposal's batched evaluation (C10); it is demanded of every returned
sample of real runs by the oracle of harness/c05.py, not proved. -/
theorem stored_values_are_evaluated_values_partial (s : NS K) (maxIt : Option Nat) (below : Bool)
    (steps : List (List K × Bool)) (r : NS K) (h : nestedSamplingLoop maxIt s below steps = .ok r) :
    ∀ p ∈ r.points, (∃ q ∈ s.points, q.logL = p.logL) ∨ ∃ st ∈ steps, p.logL ∈ st.1 := by
  rw [nestedSamplingLoop] at h
  split at h
  · cases h; exact fun p hp => Or.inl ⟨p, hp, rfl⟩
  · split at h
    · cases h
    · rename_i s' b hw
      have ho := whileLoop_origin hw
      split at h
      · rwa [finalise_points h]
      · cases h; exact ho

example (r : NS Int)
    (h : nestedSamplingLoop none (populate [3, 1, 2]) false [([0, 5], false), ([1, 4], true)] = .ok r) :
    ∀ p ∈ r.points, (∃ q ∈ (populate [3, 1, 2] : NS Int).points, q.logL = p.logL) ∨
      ∃ st ∈ [(([0, 5] : List Int), false), ([1, 4], true)], p.logL ∈ st.1 :=
  stored_values_are_evaluated_values_partial _ none false _ r h

example : (nestedSamplingLoop (K := Int) none (populate [3, 1, 2]) false [([0, 5], false), ([1, 4], true)]).toOption.map
    (fun r => r.points.map (·.logL)) = some [1, 2, 3, 4, 5] := by decide +kernel

end standard

section ins
variable {K : Type} [Field K]

/-- **`_INSIntegralState` spelled out** (DEFINITIONAL + algebra; tied to the code by the correspondence and the
oracle, which recompute these quantities from the returned samples of real runs and on a boundary stream against
the real class).  With `w_i = L_i·W_i` the importance weights of the `N ≥ 1`
returned samples (`exp(logL + logW)`) and `Σ w ≠ 0`: the evidence is the mean weight; the posterior weight
of sample `i` is `w_i / Z = N·w_i / Σ w` (they sum to `N`, not to one — the code subtracts `logZ`, which
already contains `-log N`); and for `N ≥ 2` the square of the reported log-evidence error is
`(N·Σw² / (Σw)² − 1) / (N − 1)` = `(N / ESS − 1)/(N − 1)` with Kish's effective sample size.
All three are functions of the returned `logL + logW` alone. -/
theorem ins_evidence_def [CharZero K] (w : List K) (hN : w ≠ []) (hZ : sumL w ≠ 0) :
    insZ w * (w.length : K) = sumL w ∧
    insPostW w = w.map (fun x => x * (w.length : K) / sumL w) ∧
    sumL (insPostW w) = (w.length : K) ∧
    (2 ≤ w.length → insRelVar w =
      ((w.length : K) * sumL (w.map fun x => x * x) / (sumL w * sumL w) - 1) / ((w.length : K) - 1)) := by
  have hK : (w.length : K) ≠ 0 := Nat.cast_ne_zero.mpr (by simpa using hN)
  simp only [insPostW, insRelVar, insVar, insZ, sumL_eq_sum] at hZ ⊢
  refine ⟨div_mul_cancel₀ _ hK, ?_, ?_, fun h2 => ?_⟩
  · exact List.map_congr_left fun x _ => div_div_eq_mul_div _ _ _
  · rw [sum_map_div, div_div_cancel₀ hZ]
  · have hK1 : (w.length : K) - 1 ≠ 0 := sub_ne_zero.mpr (Nat.cast_ne_one.mpr (by omega))
    rw [sum_sq_dev_mean w hK, Nat.cast_one]
    field_simp

example : ([1, 3] : List ℚ) ≠ [] ∧ sumL ([1, 3] : List ℚ) ≠ 0 ∧ insZ ([1, 3] : List ℚ) = 2 ∧
    insPostW ([1, 3] : List ℚ) = [1 / 2, 3 / 2] ∧ insRelVar ([1, 3] : List ℚ) = 1 / 4 := by decide +kernel

/-- applied to the weights 1, 3: the posterior weights sum to N = 2 -/
example : sumL (insPostW ([1, 3] : List ℚ)) = (([1, 3] : List ℚ).length : ℚ) :=
  (ins_evidence_def ([1, 3] : List ℚ) (by decide) (by decide +kernel)).2.2.1

/-- Without `Σ w ≠ 0` (every returned weight zero: all `logL + logW = -inf`) the posterior weights are
`0/0` and do not sum to `N`. -/
theorem ins_evidence_def_fails_without :
    sumL (insPostW ([0, 0] : List Rat)) ≠ (([0, 0] : List Rat).length : Rat) := by decide +kernel

/-- **The estimator depends on the returned samples as a multiset only** (a property of the definitions
`insZ`/`insVar`; that the code computes these is tied by the correspondence/oracle).  `update_evidence(nested, live)`
inside the loop and `update_evidence(samples)` at finalisation give the same evidence, variance and relative
variance whenever `samples` is a rearrangement of `nested ++ live` (C04: the two index sets partition the
store) — so the reported numbers are those of the returned samples, in whatever order they are stored. -/
theorem ins_estimator_order_free (samples nested live : List (K × K)) (h : samples.Perm (nested ++ live)) :
    insZ (insWeights samples []) = insZ (insWeights nested live) ∧
    insVar (insWeights samples []) = insVar (insWeights nested live) ∧
    insRelVar (insWeights samples []) = insRelVar (insWeights nested live) := by
  have hp : (insWeights samples []).Perm (insWeights nested live) := by
    unfold insWeights
    rw [List.append_nil]
    exact h.map _
  refine ⟨insZ_perm hp, insVar_perm hp, ?_⟩
  unfold insRelVar
  rw [insZ_perm hp, insVar_perm hp]

example : insZ (insWeights [((2 : ℚ), (1 : ℚ)), (1, 3)] []) = insZ (insWeights [((1 : ℚ), (3 : ℚ))] [(2, 1)]) :=
  (ins_estimator_order_free [((2 : ℚ), (1 : ℚ)), (1, 3)] [(1, 3)] [(2, 1)] (by decide)).1

/-- With non-negative weights, one of them positive, the evidence is positive (finite `logZ`) and every
posterior weight is non-negative (about the definitions; tied as above). -/
theorem ins_evidence_pos [LinearOrder K] [IsStrictOrderedRing K] (w : List K) (hw : ∀ x ∈ w, 0 ≤ x)
    (hex : ∃ x ∈ w, 0 < x) : 0 < insZ w ∧ ∀ p ∈ insPostW w, 0 ≤ p := by
  obtain ⟨x, hx, hpos⟩ := hex
  have hs : 0 < w.sum := lt_of_lt_of_le hpos (List.single_le_sum hw x hx)
  have hz : 0 < insZ w := by
    rw [insZ, sumL_eq_sum]
    exact div_pos hs (Nat.cast_pos.mpr (List.length_pos_of_mem hx))
  refine ⟨hz, fun p hp => ?_⟩
  obtain ⟨y, hy, rfl⟩ := List.mem_map.mp hp
  exact div_nonneg (hw y hy) hz.le

example : 0 < insZ ([0, 2] : List ℚ) :=
  (ins_evidence_pos ([0, 2] : List ℚ)
    (by intro x hx; simp at hx; rcases hx with rfl | rfl <;> norm_num) ⟨2, by simp, by norm_num⟩).1

/-- **Sample count.**  In every state the importance sampler's bookkeeping can reach (C03: any number of
levels, any batch sizes, with or without the independent set) the number of returned samples — the
independent set when `draw_iid_live`, else the training set — is the sum of the per-level draw counts. -/
theorem ins_n_samples [CharZero K] [DecidableEq K] (D : Nat → Nat → K) (hD0 : ∀ id, D id 0 = 1)
    (s : Meta.St K) (h : C03.Reachable D s) :
    (if s.useIid then s.iid.length else s.train.length) = s.counts.sum :=
  (C03.weights_are_fractions D hD0 s h).2.2.symm

example : (Meta.populate (K := ℚ) false [(1, 1), (2, 1)] []).counts.sum = 2 := by decide +kernel

/-- applied to the initial population of two samples (every density 1) -/
example : (if (Meta.populate (K := ℚ) false [(1, 1), (2, 1)] []).useIid
      then (Meta.populate (K := ℚ) false [(1, 1), (2, 1)] []).iid.length
      else (Meta.populate (K := ℚ) false [(1, 1), (2, 1)] []).train.length) =
    (Meta.populate (K := ℚ) false [(1, 1), (2, 1)] []).counts.sum :=
  ins_n_samples (fun _ _ => (1 : ℚ)) (fun _ => rfl) _ (.pop false [(1, 1), (2, 1)] [] (by simp) (by simp))

/-- **Order.**  The sample store of the importance sampler (C04: every history of insertions, threshold
updates, removals and finalisation that did not raise) holds its samples in non-decreasing likelihood order;
`samples`, the returned array, is that store mapped through `from_unit_hypercube`. -/
theorem ins_samples_sorted (st ra : Bool) (b : List (Ordered.Smp × Nat)) (ops : List Ordered.Op)
    (hops : ∀ op ∈ ops, C04.isInit op = false) (s : Ordered.OS)
    (hok : Ordered.run { strict := st, replAll := ra } (.init b :: ops) = .ok s) :
    ∃ smp, s.samples = some smp ∧ smp.Pairwise (fun a b => a.key ≤ b.key) := by
  obtain ⟨smp, wf, _, _⟩ := C04.store_invariant st ra b ops hops s hok
  exact ⟨smp, wf.stored, wf.sorted⟩

example : (Ordered.run { strict := false, replAll := false }
    [.init [(⟨3, 1⟩, 1), (⟨1, 2⟩, 2), (⟨2, 3⟩, 3)], .thr 2, .remove,
     .add [(⟨2, 4⟩, 4), (⟨0, 5⟩, 5), (⟨5, 6⟩, 6)], .remove, .finalise]).toOption.map
      (fun s => (s.samples.getD []).map (·.key)) = some [0, 1, 2, 2, 3, 5] := by decide +kernel

example (s : Ordered.OS)
    (hok : Ordered.run { strict := false, replAll := false }
      (.init [(⟨3, 1⟩, 1), (⟨1, 2⟩, 2), (⟨2, 3⟩, 3)] ::
        [.thr 2, .remove, .add [(⟨2, 4⟩, 4), (⟨0, 5⟩, 5), (⟨5, 6⟩, 6)], .remove, .finalise]) = .ok s) :
    ∃ smp, s.samples = some smp ∧ smp.Pairwise (fun a b => a.key ≤ b.key) :=
  ins_samples_sorted false false _ _ (by decide) s hok

end ins

section tables
open NessaiVerif.Gen.Results

/-- result entry ↦ what must read the same source (standard sampler): FlowSampler's attributes after
`run`, its read-only properties, what it hands to the posterior resampling, and the sampler's own attributes -/
def stdPairs : List (String × String) :=
  [("log_evidence", "fs:logZ"), ("log_evidence", "fsprop:log_evidence"), ("log_evidence", "ns:log_evidence"),
   ("log_evidence_error", "fs:logZ_error"), ("log_evidence_error", "fsprop:log_evidence_error"),
   ("log_evidence_error", "ns:log_evidence_error"),
   ("nested_samples", "fs:_nested_samples"), ("nested_samples", "fsprop:nested_samples"),
   ("nested_samples", "fs:posterior:samples"),
   ("log_posterior_weights", "fs:posterior:log_w"), ("log_posterior_weights", "ns:state.log_posterior_weights"),
   ("logL_birth", "ns:birth_log_likelihoods"), ("insertion_indices", "ns:insertion_indices"),
   ("information", "ns:information")]

/-- the same for the importance sampler -/
def insPairs : List (String × String) :=
  [("log_evidence", "fs:logZ"), ("log_evidence", "fsprop:log_evidence"), ("log_evidence", "ns:log_evidence"),
   ("log_evidence_error", "fs:logZ_error"), ("log_evidence_error", "fsprop:log_evidence_error"),
   ("log_evidence_error", "ns:log_evidence_error"),
   ("samples", "fs:_nested_samples"), ("samples", "fsprop:nested_samples"), ("samples", "ns:samples"),
   ("log_posterior_weights", "ns:log_posterior_weights")]

/-- after `run(redraw_samples=True)` FlowSampler overwrites its evidence with the redrawn one -/
def insRedrawPairs : List (String × String) :=
  [("log_evidence", "fs:redraw:logZ"), ("log_evidence_error", "fs:redraw:logZ_error"),
   ("log_evidence", "ns:final_log_evidence"), ("log_evidence_error", "ns:final_log_evidence_error"),
   ("log_posterior_weights", "ns:final_log_posterior_weights"), ("samples", "ns:final_samples")]

/-- both entries exist, neither resolves to `None`, and they resolve to the same expression under `cfg`.
This compares SOURCE EXPRESSIONS (syntax after inlining forwarding properties and resolving the conditionals),
not run-time values: two reads of the same expression are assumed to give the same value — which is exactly what
the harness checks on real runs (repeated, re-ordered reads of every public quantity). -/
def sameSource (cfg : Cfg) (result exposed : List (String × E)) (p : String × String) : Bool :=
  match lookup result p.1, lookup exposed p.2 with
  | some a, some b => eval cfg a == eval cfg b && eval cfg a != E.none
  | _, _ => false

/-- **Result keys read the sampler's attributes** (syntactic, see `sameSource`).  In the current source, every result-bearing entry of
`NestedSampler.get_result_dictionary` (evidence, its error, nested samples, posterior weights, birth
likelihoods, insertion indices, information) reads — after inlining forwarding properties — the very
expression that `FlowSampler.run_standard_sampler` stores/exposes and the sampler object reports.  For the
importance sampler without redrawn final samples the same holds for evidence, error, samples and posterior
weights, with AND without the independent sample set (`draw_iid_live` true / false); with redrawn samples the
dictionary reads the redrawn store, which is what FlowSampler then reports as its evidence. -/
theorem result_keys_read_sampler_attributes :
    (stdPairs.all (sameSource ⟨true, false⟩ stdResult stdExposed) = true) ∧
    (insPairs.all (sameSource ⟨true, false⟩ insResult insExposed) = true) ∧
    (insPairs.all (sameSource ⟨false, false⟩ insResult insExposed) = true) ∧
    (insRedrawPairs.all (sameSource ⟨true, true⟩ insResult insExposed) = true) ∧
    (insRedrawPairs.all (sameSource ⟨false, true⟩ insResult insExposed) = true) := by
  decide +kernel

example : (lookup stdResult "log_evidence").map (eval ⟨true, false⟩) =
    some (.attr (.attr .root "state") "logZ") := by decide +kernel

example : (lookup insResult "log_evidence").map (eval ⟨false, false⟩) =
    some (.attr (.attr (.attr .root "training_samples") "state") "logZ") := by decide +kernel

/-- "Without redrawn final samples" is needed: once samples have been redrawn the dictionary reports the
redrawn store while the sampler's `log_evidence` / `samples` still report the sampling-time store (by design:
FlowSampler keeps that one as `initial_logZ`). -/
theorem result_keys_fails_without :
    sameSource ⟨true, true⟩ insResult insExposed ("log_evidence", "ns:log_evidence") = false ∧
    sameSource ⟨true, true⟩ insResult insExposed ("samples", "ns:samples") = false := by
  decide +kernel

end tables

/-! ## The evidence state of the importance sampler: the source, regenerated on every run, IS the model

`Gen/InsState.lean` is produced by `harness/pylogvec2lean.py` from the current text of `_INSIntegralState.update_evidence`,
`.logZ`, `.log_posterior_weights` and `log_evidence_from_ins_samples` (a record array is its `logL` / `logW` columns, a
log-weight is the product `L · W`).  They are the model's `insWeights`, `insZ`, `insPostW` — so the INS clauses of this
property are stated about the source as it is now. -/
section insSource
variable {K : Type} [Field K]

theorem zipWith_mul_unzip (l : List (K × K)) :
    List.zipWith (· * ·) (l.map (·.1)) (l.map (·.2)) = l.map (fun s => s.1 * s.2) := by
  induction l with
  | nil => rfl
  | cons x xs ih => simp [ih]

/-- `update_evidence(nested_samples, live_points)`: the weights are `insWeights`, `_logZ` their sum, `_n` their number -/
theorem ins_update_evidence_source_eq_model (nested : List (K × K)) (live : Option (List (K × K))) :
    Gen.InsState.update_evidence (nested.map (·.1)) (nested.map (·.2)) (live.map fun l => (l.map (·.1), l.map (·.2))) =
      (insWeights nested (live.getD []), sumL (insWeights nested (live.getD [])), (insWeights nested (live.getD [])).length) := by
  cases live <;>
    simp only [Gen.InsState.update_evidence, insWeights, zipWith_mul_unzip, Option.map_none, Option.map_some,
      Option.getD_none, Option.getD_some, List.append_nil, List.map_append]

theorem ins_logZ_source_eq_model (w : List K) : Gen.InsState.logZ (sumL w) w.length = insZ w := rfl

theorem ins_post_weights_source_eq_model (w : List K) :
    Gen.InsState.log_posterior_weights w (sumL w) w.length = insPostW w := rfl

/-- `log_evidence_from_ins_samples(samples)` is `insZ` of the samples' weights -/
theorem ins_log_evidence_from_samples_source_eq_model (s : List (K × K)) :
    Gen.InsState.log_evidence_from_ins_samples (s.map (·.1)) (s.map (·.2)) = insZ (insWeights s []) := by
  simp only [Gen.InsState.log_evidence_from_ins_samples, zipWith_mul_unzip, insZ, insWeights, List.append_nil,
    List.length_map]

/-- `compute_evidence_ratio(ns_only)` on the state `update_evidence(nested, live)` leaves (`_weights_lp`, `_weights_ns`, `_logZ`,
`_n`) is the model's `insRatio`.  The sampler calls it with `ns_only=True` only, for the `ratio_ns` stopping criterion of C15;
`ratio` is `OrderedSamples.compute_evidence_ratio`: `log_evidence_from_ins_samples` (above) of the samples at or above the
threshold, minus `state.log_evidence` -/
theorem ins_evidence_ratio_source_eq_model (nested live : List (K × K)) (nsOnly : Bool) :
    Gen.InsState.compute_evidence_ratio (insWeights [] live) (insWeights nested [])
        (sumL (insWeights nested live)) (insWeights nested live).length nsOnly
      = insRatio nested live nsOnly := by
  cases nsOnly <;> rfl

/-- `compute_uncertainty(log_evidence)` on the state `update_evidence` leaves: the square root of the model's `insVar`
(`log_evidence=False`), or `|·/Ẑ|` of it (`True`, the reported log-evidence error) — for ANY functions standing for `np.sqrt` and
`np.abs` (they are not interpreted), and any number of samples (`n (n − 1)` is computed on counts: 0 for n ≤ 1, as in the model) -/
theorem ins_uncertainty_source_eq_model (sqrtOf absOf : K → K) (w : List K) (logEvidence : Bool) :
    Gen.InsState.compute_uncertainty w w.length sqrtOf absOf (sumL w) logEvidence
      = if logEvidence then absOf (sqrtOf (insVar w) / insZ w) else sqrtOf (insVar w) := by
  -- `n (n - 1)` computed on counts is `n (n - 1)` in the field, also at `n = 0`
  have hc : (((w.length * (w.length - 1) : Nat)) : K) = (w.length : K) * ((w.length : K) - ((1 : Nat) : K)) := by
    rcases Nat.eq_zero_or_pos w.length with h | h
    · simp [h]
    · rw [Nat.cast_mul, Nat.cast_sub h]
  simp only [Gen.InsState.compute_uncertainty, Gen.InsState.logZ, hc, List.map_map]
  rfl

example : Gen.InsState.update_evidence [(2 : ℚ), 4] [1 / 2, 1 / 4] (some ([3], [1 / 3])) = ([1, 1, 1], 3, 3) := by
  decide +kernel

end insSource
end NessaiVerif.C05
