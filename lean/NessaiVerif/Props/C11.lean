import NessaiVerif.Proofs.CrashFSGen
/-
C11 — a process kill during checkpointing never leaves the run unresumable.
Property theorems only.  `Gen.protocol` (the statement lists of `safe_file_dump` for both
`save_existing` values and of `FlowModel.save_weights`, the `except` tuples of
`FlowSampler._resume_from_file`, the weights-reload shape of `FlowProposal.resume`) is
regenerated from the nessai source on every run; every theorem below is about it.

A history is any list of checkpoints (either `save_existing` mode, any version) and
trainings (each ending in a weights save), each either completed or killed at a crash
point `⟨j, inside, flushed⟩`: `j` file operations completed; if `inside = some k`, the next
one started and `k` bytes written; and a file written through a handle that was not yet
closed keeps only its first `flushed` bytes (any number), under whatever name it has.
After a kill the run is restarted with resume and goes on (so histories contain any number
of kills).

WHAT THE CONCLUSIONS COVER.  `SafeAfter kind P hist` says exactly two things about the
resume after `hist`: (a) it returns — no exception leaves `FlowSampler(resume=True)`; and
(b) the checkpoint VERSION it loads is the last completed checkpoint (a fresh start if there
is none) or a checkpoint attempted after it; with `reachable_wellformed`, the file it was
loaded from is complete, never torn.  `SafeAfter` says NOTHING about which flow weights
come back with that checkpoint; that is the subject of `weights_back_partial` (one killed
save comes back with the right weights), `weights_path_never_drifts`, and
`weights_back_two_kills_witness`, which proves that the code as it is can still come back with
NO weights (an untrained flow) after two consecutive killed saves — a known finding; the two
other `weights_back_…_witness` theorems record, against the earlier reload shapes, what commits e1ff52c
and d143089 repaired.
NOT covered by any theorem, checked only by the harness oracle on the real code: that the
unpickled object equals the state that was pickled (the model has only complete/torn), and
that sampling can continue from it (the harness goes on checkpointing / training / sampling
with every resumed object, and runs killed real runs to their end).
-/
namespace NessaiVerif.C11
open NessaiVerif.CrashFS

/-- After any history whatsoever (both samplers, both `save_existing` modes, any number of
kills anywhere, including inside the pickle write and inside the weights write) the
checkpoint file and its `.old` are never torn: torn bytes only ever live in the temp file.
(This needs the rename to come AFTER the close of the temp file's handle: a file renamed
while its handle is open carries its unflushed tail to the final name.) -/
theorem reachable_wellformed (kind : Kind) (hist : List Ev) :
    ((replay kind Gen.protocol hist).fs cb).isTorn = false ∧
    ((replay kind Gen.protocol hist).fs co).isTorn = false :=
  have ⟨_, hg, _⟩ := hist_good kind Gen.protocol gen_dumpSpec hist
  hg.untorn

-- `j < 9`, here and in the witnesses below: any bound above the number of crash points of a program would do; the longest
-- generated operation list (`Gen.dumpProg true` on an existing checkpoint) has 6 entries
example : ∃ j, j < 9 ∧ ((replay .std Gen.protocol [.ckpt true 1 0 9 none,
    .ckpt true 2 0 9 (some ⟨j, some 4, 0⟩)]).fs ⟨.ckpt, .temp⟩) = .torn 4 .tornPickle := ⟨3, by decide, by decide⟩

-- durability is in the model: killed after the write but before the handle is closed, the
-- temp file keeps only what had been flushed (here 4 of 9 bytes)
example : ∃ j, j < 9 ∧ ((replay .std Gen.protocol [.ckpt true 1 0 9 none,
    .ckpt true 2 0 9 (some ⟨j, none, 4⟩)]).fs ⟨.ckpt, .temp⟩) = .torn 4 .tornPickle := ⟨4, by decide, by decide⟩

/-- THE HEADLINE.  Both samplers, both `save_existing` modes, EVERY history — checkpoints and
weight saves killed anywhere (between operations, inside the pickle write, inside
`torch.save`, before a close), any number of times: the resume never raises and loads the
previous or the new checkpoint, or starts afresh when none had completed.  (For the
standard sampler this rests on the weights reload of `FlowProposal.resume` passing
`WeightsHandler.safe`, re-decided here from the generated shape on every run; it did not
before commit 82a3f13, see `weights_crash_safe_of_handler_fails_without`.) -/
theorem crash_safe_state (kind : Kind) (hist : List Ev) : SafeAfter kind Gen.protocol hist := by
  cases kind with
  | ins => exact ins_hist_safe Gen.protocol gen_dumpSpec gen_saveSpec (gen_resumeSpec _) hist
  | std => exact std_hist_safe Gen.protocol gen_dumpSpec (gen_resumeSpec _) (safe_handler_ok Gen.weightsHandler (by decide)) hist

example : SafeAfter .std Gen.protocol [.train 1 20 .osError none, .ckpt true 1 1 9 none,
    .train 2 20 .osError (some ⟨2, some 5, 0⟩), .ckpt true 2 1 9 (some ⟨3, none, 4⟩)] :=
  crash_safe_state .std _

/-- The standard sampler's weights protocol: a kill anywhere in `FlowModel.save_weights`
(in-place `torch.save` included), in any history, never makes the resume raise
(`crash_safe_state` at `Kind.std`). -/
theorem weights_crash_safe (hist : List Ev) : SafeAfter .std Gen.protocol hist :=
  crash_safe_state .std hist

/-- Importance sampler: the per-level weights layout is crash-safe for EVERY history, kills
inside a level's weights write included — a torn `level_k/model.pt` is always beyond the
level count recorded in any checkpoint on disk, so `load_all_weights` never reads it. -/
theorem ins_levels_safe (hist : List Ev) : SafeAfter .ins Gen.protocol hist :=
  crash_safe_state .ins hist

example : ∃ j, j < 9 ∧ ((replay .ins Gen.protocol [.train 1 20 .runtime none, .ckpt false 1 0 9 none,
    .train 2 20 .runtime (some ⟨j, some 7, 0⟩)]).fs ⟨.level 1, .base⟩) = .torn 7 .runtime := ⟨1, by decide, by decide⟩

/-- Why `crash_safe_state` holds for the standard sampler, for ANY weights-reload shape `h`
(not only today's): if `h.safe` (the reload is skipped when no weights were saved, a missing
file is tolerated, everything `torch.load` raises on a torn file — `RuntimeError`, `OSError`,
`EOFError`, `UnpicklingError` — is caught, and the handler carries on or falls back to `.old`
tolerating the same failures), the resume never raises, in every history. -/
theorem weights_crash_safe_of_handler (h : WeightsHandler) (hs : h.safe = true) (hist : List Ev) :
    SafeAfter .std (Gen.protocolWith h) hist :=
  std_hist_safe (Gen.protocolWith h) gen_dumpSpec (gen_resumeSpec h) (safe_handler_ok h hs) hist

example : SafeAfter .std (Gen.protocolWith ⟨true, true, [.RuntimeError, .OSError, .EOFError, .UnpicklingError], .skip, false, false⟩)
    [.train 1 20 .osError none, .ckpt true 1 1 9 none, .train 2 20 .osError (some ⟨2, some 5, 0⟩)] :=
  weights_crash_safe_of_handler _ (by decide) _

/-- … and without `h.safe` it fails: with the reload shape the source had before commit
82a3f13 (no `try` around the reload: finding F3, fixed) one completed training and
checkpoint followed by a kill 5 bytes into the write of the next weights save (operation
`j`) makes the resume raise. -/
theorem weights_crash_safe_of_handler_fails_without :
    (∃ j, j < 9 ∧ resume .std (Gen.resumeCfgWith ⟨true, true, [], .reraise, false, false⟩) 0
      (replay .std (Gen.protocolWith ⟨true, true, [], .reraise, false, false⟩)
        [.train 1 20 .runtime none, .ckpt true 1 1 9 none, .train 2 20 .runtime (some ⟨j, some 5, 0⟩)]).fs
      = .raises .fileNotFound) ∧
    (∃ j, j < 9 ∧ resume .std (Gen.resumeCfgWith ⟨true, true, [], .reraise, false, false⟩) 0
      (replay .std (Gen.protocolWith ⟨true, true, [], .reraise, false, false⟩)
        [.train 1 20 .osError none, .ckpt true 1 1 9 none, .ckpt true 2 1 9 none,
         .train 2 20 .osError (some ⟨j, some 5, 0⟩)]).fs = .raises .osError) :=
  ⟨⟨2, by decide, by decide⟩, ⟨2, by decide, by decide⟩⟩

/-- The same counter-example in general, for ANY weights-reload shape `h` that does not catch
what `torch.load` raises on the torn file (`e`: `RuntimeError`, `OSError`, `EOFError` or
`UnpicklingError` depending on where the file was cut): whenever the checkpoint refers to
`model.pt`, that file is torn, and `.old` is missing or refers to it too, the resume raises —
whatever the versions and the cut.  (This was finding F3; today's source catches `Exception`.) -/
theorem weights_torn_witness (h : WeightsHandler) (fs : FS) (top v k : Nat) (e : Exc)
    (hc : catches h.excs e = false)
    (hb : fs cb = .complete v 1) (hw : fs wb = .torn k e)
    (ho : fs co = .absent ∨ ∃ v', fs co = .complete v' 1) :
    (resume .std (Gen.resumeCfgWith h) top fs).version = none := by
  -- the reload of the torn file raises `e`, so every attempt on a checkpoint that refers to it does
  have hres : weightsResume .std (Gen.resumeCfgWith h) top fs 1 = some e := by
    simp [weightsResume, Gen.resumeCfgWith, stdWeightsResume, loadWeights, loadContent, primary, FS.has, hw,
      Content.exists?, hc]
  have hany : ((Gen.resumeCfgWith h).candidates.any fun s => fs.has ⟨.ckpt, s⟩) = true := by
    simp [Gen.resumeCfgWith, FS.has, hb, Content.exists?]
  rcases ho with ho | ⟨v', ho⟩
  · exact resume_raises hany (attempt_raises hb hres) (attempt_absent ho)
  · exact resume_raises hany (attempt_raises hb hres) (attempt_raises ho hres)

example : (resume .std (Gen.resumeCfgWith ⟨true, true, [.RuntimeError], .skip, false, false⟩) 0
    ((emptyFS.set cb (.complete 1 1)).set wb (.torn 4100 .osError))).version = none :=
  weights_torn_witness _ _ 0 1 4100 .osError (by decide) (by decide) (by decide) (Or.inl (by decide))

/-- What the fallback to `.old` relies on: when a weights save that started from a complete
weights file is killed anywhere, the previous weights are still complete on disk, in the file
itself or in `.old` (or the new ones are complete). -/
theorem weights_old_survives (fs : FS) (w0 w len : Nat) (e : Exc) (cp : CrashPt) (hw : fs wb = .complete w0 0) :
    crashState Gen.protocol.saveWeights .weights ⟨w, 0, len, e⟩ fs cp wb = .complete w0 0 ∨
    crashState Gen.protocol.saveWeights .weights ⟨w, 0, len, e⟩ fs cp wo = .complete w0 0 ∨
    crashState Gen.protocol.saveWeights .weights ⟨w, 0, len, e⟩ fs cp wb = .complete w 0 := by
  rcases gen_saveSpec.old_survives .weights ⟨w, 0, len, e⟩ fs cp (by simp [hw]) with h | h
  · exact .inl (h.trans hw)
  · exact .inr (.inl (h.trans hw))

example : crashState Gen.protocol.saveWeights .weights ⟨2, 0, 20, .osError⟩
      (replay .std Gen.protocol [.train 1 20 .runtime none]).fs ⟨2, some 5, 0⟩ wb = .complete 1 0 ∨
    crashState Gen.protocol.saveWeights .weights ⟨2, 0, 20, .osError⟩
      (replay .std Gen.protocol [.train 1 20 .runtime none]).fs ⟨2, some 5, 0⟩ wo = .complete 1 0 ∨
    crashState Gen.protocol.saveWeights .weights ⟨2, 0, 20, .osError⟩
      (replay .std Gen.protocol [.train 1 20 .runtime none]).fs ⟨2, some 5, 0⟩ wb = .complete 2 0 :=
  weights_old_survives _ 1 2 20 .osError ⟨2, some 5, 0⟩ (by decide)

/-- WHICH WEIGHTS COME BACK (standard sampler) — weaker than the property, hence `_partial`.
From a state in which the last weights save completed (`model.pt` holds version `L`) and
the checkpoint a resume will load (`(v, n)`) records no weights (`n = 0`) or `model.pt`
(`n = 1`; by `weights_path_never_drifts` these are the only cases), ONE kill ANYWHERE in the
next weights save (version `w`) — between the move and the save included — is survived with
the right weights: the resume loads checkpoint `v`, the flow holds the last completely
saved weights `L` (read from `model.pt` or, when that file is missing or torn, from
`model.pt.old`) or the new ones `w` if their write had in fact completed, and the path it
records afterwards is `model.pt` again; a checkpoint that recorded no weights gets none.
GAP to the property: hypothesis `hw` (the previous save completed) is needed — after two
consecutive killed saves the code comes back with an UNTRAINED flow
(`weights_back_two_kills_witness`, a known finding). -/
theorem weights_back_partial (fs : FS) (top L w len v n : Nat) (e : Exc) (cp : CrashPt)
    (hg : CkptGood fs (some (v, n))) (hw : fs wb = .complete L 0) :
    ∃ wl m, resume .std Gen.protocol.cfg top
        (crashState Gen.saveWeightsProg .weights ⟨w, 0, len, e⟩ fs cp) = .loaded v n wl m ∧
      (n = 0 → wl = 0) ∧ (n = 1 → (wl = L ∨ wl = w) ∧ m = 1) := by
  have hg' : CkptGood (crashState Gen.saveWeightsProg .weights ⟨w, 0, len, e⟩ fs cp) (some (v, n)) :=
    hg.congr fun p hp => crashState_frame (by simp [hp]) ..
  have hres := gen_resumeSpec Gen.weightsHandler .std top _ _ hg'
    (fun _ _ n' _ _ => safe_handler_ok Gen.weightsHandler (by decide) _ n')
  refine ⟨_, _, hres, ?_, ?_⟩
  · rintro rfl
    rfl
  · rintro rfl
    simp only [weightsBack, Gen.resumeCfgWith, gen_back_one]
    rcases gen_saveSpec.views .weights ⟨w, 0, len, e⟩ fs cp with ⟨e1, _⟩ | ⟨e1, ⟨_, e2⟩ | ⟨e2, _⟩⟩
    · simp [e1, hw]
    · rcases e1 with e1 | e1 | ⟨k, _, e1⟩ <;> simp [e1, e2, hw]
    · rw [hw] at e2; cases e2

-- applied to the kill BETWEEN the move and the save (the point that used to lose the weights)
example : ∃ wl m, resume .std Gen.protocol.cfg 0
      (crashState Gen.saveWeightsProg .weights ⟨2, 0, 20, .osError⟩
        (replay .std Gen.protocol [.train 1 20 .runtime none, .ckpt true 1 1 9 none]).fs ⟨2, none, 0⟩)
      = .loaded 1 1 wl m ∧ ((1 : Nat) = 0 → wl = 0) ∧ ((1 : Nat) = 1 → (wl = 1 ∨ wl = 2) ∧ m = 1) :=
  weights_back_partial _ 0 1 2 20 1 1 .osError ⟨2, none, 0⟩
    ⟨by decide, by decide, Or.inl (by decide)⟩ (by decide)

/-- The recorded weights path NEVER drifts: after every history of the standard sampler
(any kills anywhere, any number), the flow's in-memory `weights_file` and the path pickled
in every checkpoint on disk are none or `model.pt` — never `model.pt.old`.  (Rests on
`self.flow.weights_file = weights_file` after a fallback reload, commit d143089.) -/
theorem weights_path_never_drifts (hist : List Ev) :
    (replay .std Gen.protocol hist).mem ≤ 1 ∧
    ∀ p v n, (p = cb ∨ p = co) → (replay .std Gen.protocol hist).fs p = .complete v n → n ≤ 1 :=
  hist_no_drift hist initSys (by decide) (fun p v n _ h => by simp [initSys, emptyFS] at h)

example : ∃ j, j < 9 ∧ (replay .std Gen.protocol [.train 1 20 .osError none, .ckpt true 1 1 9 none,
    .train 2 20 .osError (some ⟨j, some 5, 0⟩), .ckpt true 2 1 9 none]).fs cb = .complete 2 1 := ⟨2, by decide, by decide⟩

/-- RESIDUAL DEFECT, KNOWN FINDING (hypothesis `hw` of `weights_back_partial` is needed): two
consecutive killed weights saves.  The first leaves a torn `model.pt` and the good weights in
`.old`; the restarted run's next save moves the TORN file over `.old` and is killed in its
write: both files are torn, the reload and its fallback both fail and are swallowed, and the
checkpoint comes back with an untrained flow.  (`FlowModel.save_weights` is unchanged.) -/
theorem weights_back_two_kills_witness :
    ∃ j, j < 9 ∧ resume .std Gen.protocol.cfg 0 (replay .std Gen.protocol
      [.train 1 20 .osError none, .ckpt true 1 1 9 none, .train 2 20 .osError (some ⟨j, some 5, 0⟩),
       .train 3 20 .osError (some ⟨j, some 5, 0⟩)]).fs = .loaded 1 1 0 0 :=
  ⟨2, by decide, by decide⟩

/-- What commit e1ff52c repaired, against the reload shape the source had before it (fallback
only inside the `except` body): a single kill BETWEEN the move of `model.pt` to `.old` and the
`torch.save` left no `model.pt`; the reload was skipped silently although the complete previous
weights sat in `.old`, and the checkpoint came back with an untrained flow. -/
theorem weights_back_missing_file_witness :
    ∃ j, j < 9 ∧
      (replay .std (Gen.protocolWith ⟨true, true, [.Exception], .loadOld true [.Exception], false, false⟩)
        [.train 1 20 .runtime none, .ckpt true 1 1 9 none,
         .train 2 20 .runtime (some ⟨j, none, 0⟩)]).fs wo = .complete 1 0 ∧
      resume .std (Gen.resumeCfgWith ⟨true, true, [.Exception], .loadOld true [.Exception], false, false⟩) 0
        (replay .std (Gen.protocolWith ⟨true, true, [.Exception], .loadOld true [.Exception], false, false⟩)
          [.train 1 20 .runtime none, .ckpt true 1 1 9 none,
           .train 2 20 .runtime (some ⟨j, none, 0⟩)]).fs = .loaded 1 1 0 0 :=
  ⟨2, by decide, by decide⟩

/-- What commit d143089 repaired, against the shape before it (fallback without
`self.flow.weights_file = weights_file`): after ONE fallback the flow recorded `model.pt.old`
(code 2), the next checkpoint pickled that path, the next completed save rotated the torn file
over `.old`, and a kill before the following checkpoint completed resumed the drifted
checkpoint with an untrained flow although `model.pt` held complete weights. -/
theorem weights_back_path_drift_witness :
    ∃ j, j < 9 ∧ ∃ i, i < 9 ∧
      (replay .std (Gen.protocolWith ⟨true, true, [.Exception], .loadOld true [.Exception], true, false⟩)
        [.train 1 20 .osError none, .ckpt true 1 1 9 none,
         .train 2 20 .osError (some ⟨j, some 5, 0⟩), .ckpt true 2 1 9 none, .train 3 20 .osError none,
         .ckpt true 3 1 9 (some ⟨i, some 4, 0⟩)]).fs wb = .complete 3 0 ∧
      resume .std (Gen.resumeCfgWith ⟨true, true, [.Exception], .loadOld true [.Exception], true, false⟩) 0
        (replay .std (Gen.protocolWith ⟨true, true, [.Exception], .loadOld true [.Exception], true, false⟩)
          [.train 1 20 .osError none, .ckpt true 1 1 9 none, .train 2 20 .osError (some ⟨j, some 5, 0⟩),
           .ckpt true 2 1 9 none, .train 3 20 .osError none,
           .ckpt true 3 1 9 (some ⟨i, some 4, 0⟩)]).fs = .loaded 2 2 0 0 :=
  ⟨2, by decide, 3, by decide, by decide⟩

end NessaiVerif.C11
