import NessaiVerif.Model.Quadrature
import NessaiVerif.Proofs.QuadOrder
import NessaiVerif.Proofs.InformationReal
import NessaiVerif.Gen.Increment
import NessaiVerif.Gen.Trapezoid
import Mathlib.Analysis.SpecialFunctions.Log.Basic
/-
C02 — evidence and posterior weights equal the documented nested-sampling quadrature.

The model (Model/Quadrature.lean) is the code of `_NSIntegralState`, `NestedSampler.finalise`'s
hand-over loop and `compute_weights` in the linear domain (`L = exp logL`, `X = exp log_vol`,
`t = exp logt`); `evidence`/`weights` are the documented quadrature.  The algebraic theorems hold for every
field `K` (ℚ: what the driver runs; ℝ: what the floats approximate), every length, every live-point schedule
and every shrinkage function `shrink : Nat → K` (both expectation modes); where order enters (decrease of the
volumes, signs, positive likelihoods keeping `Z ≠ 0` in the information recursion) the field is linearly ordered
and the shrinkages lie in (0,1); the theorems that mention `Real.log` or `Real.exp` are over ℝ.

SCOPE — what is proved here and what is NOT.
* Proved (exact arithmetic): the algebraic content of the property — which volumes, which rectangle
  weights, which trapezoid with which opening/closing points, incremental = one-pass = documented
  quadrature for every schedule, start at 1 / strict decrease of the volumes, scaling (= shift in log
  space) of the evidence with unchanged weights, positivity.
* NOT proved, checked by the harness only (harness/c02.py, on generated inputs, against the exact `Rat`
  execution of these very definitions and a 60-digit mpmath evaluation):
    - "agree to floating-point accuracy" (|Δ| ≤ 1e-9·max(1,|v|) between float64 results and exact values),
    - "without overflow or underflow for magnitudes up to at least 1e5",
    - "adding c shifts the float log-evidence by exactly c" (to a few ulps of |c|).
  The Lean model is the linear-domain READING of the log-space code: the float operations `logaddexp`,
  `logsubexp`, `log1p`, `exp`, `logsumexp`, `cumsum` are replaced by `+`, `-`, `1 - t`, `*`, `Σ`, cumulative
  product; their rounding, overflow and underflow behaviour is not modelled.
* Domain: live counts `n ≥ 1` (for `nlive = 0` the code divides by zero / produces NaN whereas a field has
  `1/0 = 0`), and statements about weights assume `evidence ≠ 0` (Python gives NaN at `Z = 0` where a field
  gives `x/0 = 0`).  Theorems quantifying over schedules therefore carry `1 ≤ n` hypotheses, also where the
  algebra does not need them.
-/
namespace NessaiVerif.C02
open NessaiVerif.Quad

variable {K : Type} [Field K]

/-- Prior volumes start at `X = 1` (log-volume 0), whatever the shrinkages. -/
theorem vols_head (ts : List K) : (vols ts).head? = some 1 := rfl

/-- If every shrinkage factor lies strictly between 0 and 1, the prior volumes are strictly
decreasing (every earlier volume exceeds every later one) and stay in `(0, 1]`;
appending the closing point `X = 0` keeps the sequence strictly decreasing. -/
theorem vols_strictAnti [LinearOrder K] [IsStrictOrderedRing K] (ts : List K) (h : Unit01 ts) :
    (vols ts).Pairwise (fun a b => b < a) ∧ (∀ x ∈ vols ts, 0 < x ∧ x ≤ 1) ∧
      (closedX ts).Pairwise (fun a b => b < a) := by
  obtain ⟨hp, hb⟩ := volsFrom_anti 1 one_pos ts h
  exact ⟨hp, hb, closed_vols_pairwise ts h⟩

example := vols_strictAnti [(1 : ℚ) / 2, 2 / 3] unit01_example

/-- The hypothesis `t < 1` is needed: with `t = 1` two consecutive volumes are equal. -/
theorem vols_strictAnti_fails_without :
    ¬ (vols [(1 : Rat)]).Pairwise (fun a b => b < a) := by decide +kernel

/-- expectation = "t": for every `n ≥ 1` the shrinkage `1/(1 + 1/n)` equals `n/(n+1)` and lies in (0,1). -/
theorem t_mode_in_unit [LinearOrder K] [IsStrictOrderedRing K] (n : Nat) (hn : 1 ≤ n) :
    (tOfN n : K) = (n : K) / ((n : K) + 1) ∧ 0 < (tOfN n : K) ∧ (tOfN n : K) < 1 := by
  have hpos : (0 : K) < n := Nat.cast_pos.mpr hn
  have hlt : (n : K) < n + 1 := lt_add_one _
  have e : (tOfN n : K) = (n : K) / ((n : K) + 1) := by
    rw [tOfN, one_add_div hpos.ne', one_div_div]
  rw [e]
  exact ⟨rfl, div_pos hpos (hpos.trans hlt), (div_lt_one (hpos.trans hlt)).mpr hlt⟩

example := t_mode_in_unit (K := ℚ) 5 (by decide)

/-- expectation = "logt": for every `n ≥ 1` the shrinkage `exp(-1/n)` lies in (0,1), and its
logarithm is the documented `-1/n`. -/
theorem logt_mode_in_unit (n : Nat) (hn : 1 ≤ n) :
    0 < Real.exp (-1 / (n : ℝ)) ∧ Real.exp (-1 / (n : ℝ)) < 1 ∧
      Real.log (Real.exp (-1 / (n : ℝ))) = -1 / (n : ℝ) :=
  ⟨Real.exp_pos _, Real.exp_lt_one_iff.mpr (div_neg_of_neg_of_pos neg_one_lt_zero (Nat.cast_pos.mpr hn)),
    Real.log_exp _⟩

example := logt_mode_in_unit 5 (by decide)

/-- expectation = "t" in log space: `log t = -log(1 + 1/n)`, the documented `-log1p(1/n)`. -/
theorem t_mode_log (n : Nat) :
    Real.log (tOfN n : ℝ) = -Real.log (1 + 1 / (n : ℝ)) := by
  unfold tOfN
  rw [one_div, Real.log_inv]

/-- Log space ↔ linear domain: the logarithms of the model's volumes are `0` followed by the
cumulative sums of the log-shrinkages — exactly `log_vols = [0.0]; logw += logt; log_vols.append(logw)`. -/
theorem log_vols_eq_cumsum (ts : List ℝ) (h : ∀ t ∈ ts, 0 < t) :
    (vols ts).map Real.log = 0 :: cumsumFrom 0 (ts.map Real.log) := by
  have key (w : ℝ) (hw : 0 < w) :
      (cumprodFrom w ts).map Real.log = cumsumFrom (Real.log w) (ts.map Real.log) := by
    induction ts generalizing w with
    | nil => rfl
    | cons t ts ih =>
      obtain ⟨ht, hts⟩ := List.forall_mem_cons.mp h
      rw [cumprodFrom, List.map_cons, List.map_cons, cumsumFrom, ih hts (w * t) (mul_pos hw ht),
        Real.log_mul hw.ne' ht.ne']
  rw [vols, volsFrom, List.map_cons, key 1 one_pos, Real.log_one]

example := log_vols_eq_cumsum [Real.exp (-1 / 2), Real.exp (-1)]
  (by intro t ht; simp at ht; rcases ht with rfl | rfl <;> exact Real.exp_pos _)

/-- The live counts seen by the integral state (k dead points, then `NestedSampler.finalise`
handing over n live points with `nlive - i`) are exactly what `compute_weights` builds by
overwriting the last n entries of a constant schedule — for every k and n ≥ 1. -/
theorem schedule_eq (len k n : Nat) (hn : 1 ≤ n) (h : len = k + n) :
    scheduleOnePass len n = .ok (scheduleIncr k n) := by
  subst h
  exact scheduleOnePass_add k n hn

example := schedule_eq 5 3 2 (by decide) (by decide)

/-- `compute_weights` needs at least `nlive` samples: with fewer (and nlive ≥ 2) NumPy's slice
assignment fails, so the property's quantifier "length ≥ nlive" cannot be dropped. -/
theorem schedule_eq_fails_without (shrink : Nat → K) (a b : K) :
    computeWeights shrink [a, b] (.int 3) = .error .valueErr := rfl

/-- **Incremental = one pass.**  After ANY sequence of `increment(L, nlive)` calls the state holds:
the recorded live counts, the likelihoods behind the opening `L = 0`, the volumes `1, t₁, t₁t₂, …`,
and a running evidence equal to the rectangle rule `Σ Lᵢ (Xᵢ₋₁ - Xᵢ)` evaluated in one pass. -/
theorem incr_eq_rectOnePass (shrink : Nat → K) (base : Nat) (args : List (K × Option Nat))
    (_hpos : ∀ m ∈ resolved base args, 1 ≤ m) :
    let s := (St.init base : St K).incrMany shrink args
    let ls := args.map (·.1)
    let ts := (resolved base args).map shrink
    s.ns = resolved base args ∧ s.Ls = 0 :: ls ∧ s.Xs = vols ts ∧ s.Z = rectOnePass ls (vols ts) := by
  obtain ⟨_, _, h3, h4, h5, h6⟩ := state_closed shrink base args
  exact ⟨h5, h6, h3, h4⟩

example := incr_eq_rectOnePass (K := ℚ) tOfN 2 [(1, none), (3, some 5)] (by decide)
example : ((St.init 2 : St Rat).incrMany tOfN [(1, none), (3, some 5)]).Z
    = rectOnePass [1, 3] (vols [tOfN 2, tOfN 5]) := by decide +kernel

/-- The sampler's state (dead points consumed with the base live count, then the live points handed
over by `NestedSampler.finalise`) has the schedule `n,…,n,n,n-1,…,1`, volumes that are the products
of its shrinkages, and the one-pass rectangle evidence. -/
theorem sampler_spec (shrink : Nat → K) (n : Nat) (_hn : 1 ≤ n) (dead live : List K)
    (hlive : live.length = n) :
    let s := sampler shrink n dead live
    let ts := (scheduleIncr dead.length n).map shrink
    s.ns = scheduleIncr dead.length n ∧ s.Ls = 0 :: (dead ++ live) ∧ s.Xs = vols ts ∧
      s.Z = rectOnePass (dead ++ live) (vols ts) ∧
      s.finalise = evidence (dead ++ live) ts ∧ s.postW = weights (dead ++ live) ts := by
  obtain ⟨hr, hl⟩ := samplerCalls_spec n dead live hlive
  have h := state_closed shrink n (samplerCalls n dead live)
  rw [← sampler_eq shrink n dead live hlive, hr, hl] at h
  obtain ⟨h1, h2, h3, h4, h5, h6⟩ := h
  exact ⟨h5, h6, h3, h4, h1, h2⟩

example := sampler_spec (K := ℚ) tOfN 2 (by decide) [1] [2, 4] rfl

/-- **Incremental state = one-pass `compute_weights`** (integer `nlive`): for every number of dead
points and every `n ≥ 1`, `finalise()` and `log_posterior_weights` of the sampler's state are exactly
the evidence and weights `compute_weights` returns for the stored samples — both are the documented
quadrature `evidence`/`weights` on the schedule `n,…,n,n,n-1,…,1`. -/
theorem state_eq_compute_weights (shrink : Nat → K) (n : Nat) (hn : 1 ≤ n) (dead live : List K)
    (hlive : live.length = n) :
    computeWeights shrink (dead ++ live) (.int n) =
      .ok ((sampler shrink n dead live).finalise, (sampler shrink n dead live).postW) ∧
    (sampler shrink n dead live).finalise =
      evidence (dead ++ live) ((scheduleIncr dead.length n).map shrink) := by
  obtain ⟨_, _, _, _, hf, hw⟩ := sampler_spec shrink n hn dead live hlive
  refine ⟨?_, hf⟩
  rw [hf, hw]
  exact computeWeights_int shrink _ dead.length n hn (by rw [List.length_append, hlive])

example := state_eq_compute_weights (K := ℚ) tOfN 2 (by decide) [1] [2, 4] rfl
example : (computeWeights tOfN [(1 : Rat), 2, 4] (.int 2)).toOption =
    some ((sampler tOfN 2 [1] [2, 4]).finalise, (sampler tOfN 2 [1] [2, 4]).postW) := by decide +kernel

/-- The hand-over must cover exactly `n` live points: a state finalised with fewer live points
than `nlive` does not agree with `compute_weights`. -/
theorem state_eq_compute_weights_fails_without :
    (computeWeights tOfN [(1 : Rat), 2] (.int 2)).toOption ≠
      some ((sampler tOfN 2 [1] [2]).finalise, (sampler tOfN 2 [1] [2]).postW) := by decide +kernel

/-- **Incremental state = one-pass `compute_weights`** (array-valued `nlive`): for ANY per-iteration
schedule of live counts, feeding `increment(Lᵢ, nlive=nᵢ)` and finalising gives exactly what
`compute_weights(samples, nlive=array)` returns. -/
theorem state_eq_compute_weights_array (shrink : Nat → K) (base : Nat) (Ls : List K) (ns : List Nat)
    (hlen : ns.length = Ls.length) (hne : Ls ≠ []) (_hpos : ∀ m ∈ ns, 1 ≤ m) :
    let s := (St.init base : St K).incrMany shrink (Ls.zip (ns.map some))
    computeWeights shrink Ls (.arr ns) = .ok (s.finalise, s.postW) ∧
      s.finalise = evidence Ls (ns.map shrink) ∧ s.postW = weights Ls (ns.map shrink) ∧
      s.Xs = vols (ns.map shrink) := by
  obtain ⟨hr, hl⟩ := resolved_zip_some base Ls ns hlen
  have h := state_closed shrink base (Ls.zip (ns.map some))
  simp only [hr, hl] at h
  obtain ⟨h1, h2, h3, _, _, _⟩ := h
  refine ⟨?_, h1, h2, h3⟩
  rw [h1, h2]
  exact computeWeights_arr shrink Ls ns hlen hne

example := state_eq_compute_weights_array (K := ℚ) tOfN 4 [1, 2] [3, 7] rfl (by simp) (by decide)

/-- `get_logx_live_points(n)`, evaluated after the dead points, predicts exactly the volumes that the
hand-over of the `n` live points then appends to `log_vols`. -/
theorem logx_live_points_eq (shrink : Nat → K) (n : Nat) (_hn : 1 ≤ n) (dead live : List K)
    (hlive : live.length = n) :
    (sampler shrink n dead live).Xs =
      (consume shrink (St.init n) dead).Xs ++ (consume shrink (St.init n : St K) dead).logxLive shrink n := by
  have hbase : (consume shrink (St.init n : St K) dead).base = n :=
    (incrMany_spec shrink (St.init n : St K) (dead.map fun L => (L, none))).1
  -- the hand-over is `incrMany` on the live points with the counts `n, n-1, …, 1`; `hXs`: the volumes it appends
  obtain ⟨-, -, -, hXs, -, -⟩ := incrMany_spec shrink (consume shrink (St.init n : St K) dead)
    (live.zip ((countdown live.length).map some))
  rw [sampler, finaliseLoopFrom_eq shrink n 0 _ live (by omega), hXs, hbase, hlive,
    (resolved_zip_some n live (countdown n) (by rw [length_countdown, hlive])).1]
  rfl

example := logx_live_points_eq (K := ℚ) tOfN 2 (by decide) [1] [2, 4] rfl
example : (sampler tOfN 2 [(1 : Rat)] [2, 4]).Xs = [1, 2 / 3, 4 / 9, 2 / 9] := by decide +kernel

/-- **Shift property, linear form.**  Multiplying every likelihood by `c ≠ 0` (adding `log c` to every
log-likelihood) multiplies the evidence by `c` and leaves every posterior weight unchanged — for the
documented quadrature, for `compute_weights` (any `nlive` argument, errors preserved) and for the
incremental state after any sequence of increments. -/
theorem scale_invariance (shrink : Nat → K) (c : K) (hc : c ≠ 0) :
    (∀ ls ts : List K, evidence (ls.map (c * ·)) ts = c * evidence ls ts ∧
        weights (ls.map (c * ·)) ts = weights ls ts) ∧
    (∀ (samples : List K) (nl : NLive), computeWeights shrink (samples.map (c * ·)) nl =
        (computeWeights shrink samples nl).map fun r => (c * r.1, r.2)) ∧
    (∀ (base : Nat) (args : List (K × Option Nat)), (∀ m ∈ resolved base args, 1 ≤ m) →
        let s := (St.init base : St K).incrMany shrink args
        let s' := (St.init base : St K).incrMany shrink (args.map fun a => (c * a.1, a.2))
        s'.finalise = c * s.finalise ∧ s'.postW = s.postW ∧ s'.Xs = s.Xs ∧ s'.Z = c * s.Z) := by
  refine ⟨fun ls ts => ⟨evidence_map_mul c ls ts, weights_map_mul c hc ls ts⟩, ?_, ?_⟩
  · intro samples nl
    unfold computeWeights
    simp only [List.length_map]
    split
    · rfl
    · cases hl : samples.getLast? with
      | none => rw [List.getLast?_map, hl]; rfl
      | some last =>
        have hl' : (samples.map (c * ·)).getLast? = some (c * last) := by rw [List.getLast?_map, hl]; rfl
        simp only [hl', closedL_of_getLast? hl, closedL_of_getLast? hl', closedL_map_mul, trap_map_mul,
          postWeights_map_mul c hc, Except.map]
  · intro base args _
    have hres : resolved base (args.map fun a => ((c * a.1, a.2) : K × Option Nat)) = resolved base args := by
      simp [resolved]
    have hls : (args.map fun a => ((c * a.1, a.2) : K × Option Nat)).map (·.1) = (args.map (·.1)).map (c * ·) := by
      simp
    obtain ⟨a1, a2, a3, a4, -, -⟩ := state_closed shrink base args
    obtain ⟨b1, b2, b3, b4, -, -⟩ := state_closed shrink base (args.map fun a => (c * a.1, a.2))
    simp only [hres, hls] at b1 b2 b3 b4
    refine ⟨?_, ?_, b3.trans a3.symm, ?_⟩
    · rw [b1, a1, evidence_map_mul]
    · rw [b2, a2, weights_map_mul c hc]
    · rw [b4, a4]; exact dot_map_mul_left c _ _

example := scale_invariance (K := ℚ) tOfN 2 (by norm_num)

/-- Without `c ≠ 0` the weights are not preserved (everything collapses to zero). -/
theorem scale_invariance_fails_without :
    weights ([(1 : Rat), 2].map ((0 : Rat) * ·)) [1 / 2, 1 / 2] ≠ weights [(1 : Rat), 2] [1 / 2, 1 / 2] := by
  decide +kernel

/-- **Shift property, log form** (ℝ): adding a constant `a` to every log-likelihood shifts the
log-evidence by exactly `a` and leaves the posterior weights unchanged, whenever the evidence is positive. -/
theorem log_evidence_shift (a : ℝ) (ls ts : List ℝ) (hpos : 0 < evidence ls ts) :
    Real.log (evidence (ls.map (Real.exp a * ·)) ts) = a + Real.log (evidence ls ts) ∧
      weights (ls.map (Real.exp a * ·)) ts = weights ls ts := by
  refine ⟨?_, weights_map_mul _ (ne_of_gt (Real.exp_pos a)) ls ts⟩
  rw [evidence_map_mul, Real.log_mul (ne_of_gt (Real.exp_pos a)) (ne_of_gt hpos), Real.log_exp]

/-- With non-negative likelihoods, at least one of them positive, and shrinkages in (0,1) the evidence
is strictly positive — the log-evidence is finite in exact arithmetic (leading `-inf` log-likelihoods
are harmless). -/
theorem evidence_pos [LinearOrder K] [IsStrictOrderedRing K] (ls ts : List K) (hL : ∀ l ∈ ls, 0 ≤ l) (ht : Unit01 ts)
    (hlen : ls.length = ts.length) (hex : ∃ l ∈ ls, 0 < l) : 0 < evidence ls ts := by
  have hpos := diffs_closedX_pos ts ht
  have hdl := length_diffs_closedX ls ts hlen
  have hnn := closedL_nonneg ls hL
  -- the mean of the lower sum (≥ 0) and the upper sum, which contains `l · ΔX > 0`
  rw [evidence_eq_mean ls ts hlen]
  have hlo : 0 ≤ lowerSum (closedL ls) (diffs (closedX ts)) := dot_nonneg hnn hpos
  have hup : 0 < upperSum (closedL ls) (diffs (closedX ts)) := by
    obtain ⟨l, hl, hlpos⟩ := hex
    refine dot_pos (fun x hx => hnn x (List.mem_of_mem_tail hx)) hpos ?_ ⟨l, ?_, hlpos⟩
    · rw [List.length_tail]; omega
    · simp [closedL, hl]
  exact div_pos (add_pos_of_nonneg_of_pos hlo hup) two_pos

example := evidence_pos [(0 : ℚ), 3] [1 / 2, 2 / 3] nonneg_example unit01_example rfl ⟨3, by simp, by norm_num⟩

example := log_evidence_shift 3 [1, 2] [Real.exp (-1 / 2), Real.exp (-1)]
  (evidence_pos _ _ (by simp) (by norm_num [Unit01, Real.exp_pos]) rfl ⟨1, List.mem_cons_self, one_pos⟩)

/-- If every likelihood is zero (every log-likelihood `-inf`) the evidence is zero: positivity needs a
positive likelihood. -/
theorem evidence_pos_fails_without : evidence [(0 : Rat), 0] [1 / 2, 1 / 2] = 0 := by decide +kernel

/-- Posterior weights are non-negative (log-weights are real or `-inf`, never undefined) whenever the
evidence is positive.  The hypothesis `0 < evidence` (supplied by `evidence_pos`) is a domain guard: at
`Z = 0` the Python code returns NaN weights, whereas a field has `x / 0 = 0`. -/
theorem postW_nonneg [LinearOrder K] [IsStrictOrderedRing K] (ls ts : List K) (hL : ∀ l ∈ ls, 0 ≤ l)
    (ht : Unit01 ts) (_hZ : 0 < evidence ls ts) :
    ∀ w ∈ weights ls ts, 0 ≤ w :=
  weights_nonneg ls ts hL ht

example := postW_nonneg [(0 : ℚ), 3] [1 / 2, 2 / 3] nonneg_example unit01_example
  (evidence_pos _ _ nonneg_example unit01_example rfl ⟨3, by simp, by norm_num⟩)

/-- The posterior weights are the rectangle terms `Lᵢ (Xᵢ₋₁ - Xᵢ)` over the trapezoidal evidence;
hence (evidence ≠ 0) they sum to (rectangle evidence)/(trapezoidal evidence) — close to, but not exactly, one. -/
theorem sum_postW_eq_rect_div_trap (ls ts : List K) (hZ : evidence ls ts ≠ 0) :
    weights ls ts = List.zipWith (fun l d => l * d / evidence ls ts) ls (diffs (vols ts)) ∧
      sumL (weights ls ts) * evidence ls ts = rectOnePass ls (vols ts) := by
  refine ⟨weights_eq ls ts, ?_⟩
  rw [weights_eq, sumL_zipWith_div, div_mul_cancel₀ _ hZ]
  rfl

example := sum_postW_eq_rect_div_trap [(0 : ℚ), 3] [1 / 2, 2 / 3]
  (ne_of_gt (evidence_pos _ _ nonneg_example unit01_example rfl ⟨3, by simp, by norm_num⟩))

/-- **Volumes start at 1 and strictly decrease — any schedule.**  After ANY sequence of `increment` calls
whose live counts are all ≥ 1, with a shrinkage in (0,1) for every live count ≥ 1, `log_vols` has one entry
per call plus the initial one, starts at `X = 1` (log-volume 0), is strictly decreasing and stays in (0,1]. -/
theorem state_vols_start_decrease [LinearOrder K] [IsStrictOrderedRing K] (shrink : Nat → K)
    (hs : ∀ m, 1 ≤ m → 0 < shrink m ∧ shrink m < 1) (base : Nat) (args : List (K × Option Nat))
    (hpos : ∀ m ∈ resolved base args, 1 ≤ m) :
    let s := (St.init base : St K).incrMany shrink args
    s.Xs.head? = some 1 ∧ s.Xs.length = args.length + 1 ∧ s.Xs.Pairwise (fun a b => b < a) ∧
      ∀ x ∈ s.Xs, 0 < x ∧ x ≤ 1 := by
  obtain ⟨_, _, h3, _, _, _⟩ := state_closed shrink base args
  have hu := unit01_of_sched shrink hs _ hpos
  obtain ⟨h1, h2, _⟩ := vols_strictAnti _ hu
  simp only [h3]
  refine ⟨rfl, ?_, h1, h2⟩
  simp [length_vols, resolved]

example := state_vols_start_decrease (K := ℚ) tOfN (fun m hm => (t_mode_in_unit m hm).2) 2
  [(1, none), (3, some 5)] (by decide)

/-- **Volumes start at 1 and strictly decrease — the sampler's schedule.**  For the schedule the sampler
produces (k dead points consumed with `n` live points, then the `n ≥ 1` live points handed over with
`n, n-1, …, 1`), the stored volumes start at `X = 1` (log-volume 0), are strictly decreasing, stay in (0,1],
and there is one per sample plus the initial one — for any shrinkage that lies in (0,1) on live counts ≥ 1. -/
theorem sampler_vols_start_decrease [LinearOrder K] [IsStrictOrderedRing K] (shrink : Nat → K)
    (hs : ∀ m, 1 ≤ m → 0 < shrink m ∧ shrink m < 1) (n : Nat) (hn : 1 ≤ n) (dead live : List K)
    (hlive : live.length = n) :
    let s := sampler shrink n dead live
    s.Xs.head? = some 1 ∧ s.Xs.length = dead.length + n + 1 ∧ s.Xs.Pairwise (fun a b => b < a) ∧
      ∀ x ∈ s.Xs, 0 < x ∧ x ≤ 1 := by
  obtain ⟨_, _, h3, _, _, _⟩ := sampler_spec shrink n hn dead live hlive
  have hu := unit01_of_sched shrink hs _ (scheduleIncr_pos dead.length n hn)
  obtain ⟨h1, h2, _⟩ := vols_strictAnti _ hu
  simp only [h3]
  refine ⟨rfl, ?_, h1, h2⟩
  simp [length_vols, length_scheduleIncr]

example := sampler_vols_start_decrease (K := ℚ) tOfN (fun m hm => (t_mode_in_unit m hm).2) 2 (by decide)
  [1] [2, 4] rfl

/-- **…in both expectation modes.**  The property's clause "log prior volumes start at 0 and strictly
decrease" for the sampler's schedule with expectation = "t" (`t = 1/(1+1/n)`, any ordered field) and with
expectation = "logt" (`t = exp(-1/n)`, ℝ). -/
theorem sampler_vols_start_decrease_both_modes [LinearOrder K] [IsStrictOrderedRing K] (n : Nat) (hn : 1 ≤ n) :
    (∀ (dead live : List K), live.length = n →
      let s := sampler (tOfN : Nat → K) n dead live
      s.Xs.head? = some 1 ∧ s.Xs.Pairwise (fun a b => b < a)) ∧
    (∀ (dead live : List ℝ), live.length = n →
      let s := sampler (fun m : Nat => Real.exp (-1 / (m : ℝ))) n dead live
      s.Xs.head? = some 1 ∧ s.Xs.Pairwise (fun a b => b < a)) := by
  refine ⟨fun dead live hl => ?_, fun dead live hl => ?_⟩
  · obtain ⟨a, _, b, _⟩ := sampler_vols_start_decrease (K := K) tOfN
      (fun m hm => (t_mode_in_unit m hm).2) n hn dead live hl
    exact ⟨a, b⟩
  · obtain ⟨a, _, b, _⟩ := sampler_vols_start_decrease (K := ℝ) (fun m : Nat => Real.exp (-1 / (m : ℝ)))
      (fun m hm => ⟨(logt_mode_in_unit m hm).1, (logt_mode_in_unit m hm).2.1⟩) n hn dead live hl
    exact ⟨a, b⟩

example := sampler_vols_start_decrease_both_modes (K := ℚ) 3 (by decide)

/-- The documented quadrature written out for two samples: opening point `(L=0, X=1)`,
trapezoids between consecutive points, closing point `(L=L₂, X=0)`; rectangle posterior weights. -/
example (L₁ L₂ t₁ t₂ : K) :
    evidence [L₁, L₂] [t₁, t₂] =
      (0 + L₁) / 2 * (1 - t₁) + (L₁ + L₂) / 2 * (t₁ - t₁ * t₂) + (L₂ + L₂) / 2 * (t₁ * t₂ - 0) ∧
    weights [L₁, L₂] [t₁, t₂] =
      [L₁ * (1 - t₁) / evidence [L₁, L₂] [t₁, t₂], L₂ * (t₁ - t₁ * t₂) / evidence [L₁, L₂] [t₁, t₂]] := by
  constructor
  · simp only [evidence, closedL, closedX, vols, volsFrom, cumprodFrom, trap, avgs, diffs, dot, List.getLastD_cons,
      List.getLastD_nil, List.cons_append, List.nil_append, one_mul, add_zero, one_add_one_eq_two, add_assoc]
  · rw [weights_eq]
    simp only [vols, volsFrom, cumprodFrom, diffs, one_mul, List.zipWith_cons_cons, List.zipWith_nil_left]

/-- **The evidence is bracketed by the Riemann sums, with an explicit width.**  For non-decreasing likelihoods
`0 ≤ L₁ ≤ … ≤ L_N` and shrinkages in (0,1) (any schedule, both expectation modes), the documented trapezoid evidence is
the mean of the lower sum `Σ L_{i-1} ΔX_i` and the upper sum `Σ L_i ΔX_i` over the volume intervals (closing interval
`[0, X_N]` included) — so it lies between them — and the two differ by at most `D · L_N`, where `D` is any bound on the
interval widths: the exact-arithmetic discretisation error of the estimate is at most half of that.  (The rectangle sum
accumulated during sampling is the upper sum without the closing interval.) -/
theorem evidence_bracket [LinearOrder K] [IsStrictOrderedRing K] (ls ts : List K) (hlen : ls.length = ts.length)
    (hL : NonDecr ([0] ++ ls)) (ht : Unit01 ts) (D : K)
    (hD : ∀ d ∈ diffs (closedX ts), d ≤ D) :
    let lo := lowerSum (closedL ls) (diffs (closedX ts))
    let up := upperSum (closedL ls) (diffs (closedX ts))
    evidence ls ts = (lo + up) / 2 ∧ lo ≤ evidence ls ts ∧ evidence ls ts ≤ up ∧
      up - lo ≤ D * ls.getLastD 0 := by
  intro lo up
  have e : evidence ls ts = (lo + up) / 2 := evidence_eq_mean ls ts hlen
  have hnd : NonDecr (closedL ls) := by
    rw [closedL_eq]
    exact nonDecr_append_last (0 :: ls) hL
  obtain ⟨h0, h1⟩ := upper_sub_lower_le D (closedL ls) (diffs (closedX ts)) (length_diffs_closedX ls ts hlen)
    hnd (fun x hx => ⟨(diffs_closedX_pos ts ht x hx).le, hD x hx⟩)
  rw [getLastD_closedL, show (closedL ls).headD 0 = 0 from rfl, sub_zero] at h1
  exact ⟨e, by rw [e]; linarith, by rw [e]; linarith, h1⟩

/-- applied: two dead points `1 ≤ 3` with shrinkage 1/2: widths 1/2, 1/4, 1/4 ≤ 1/2, the evidence 3/2 lies between the
lower sum 1 and the upper sum 2… and within `D · L_N / 2 = 3/4` of both -/
example := evidence_bracket (K := ℚ) [1, 3] [1 / 2, 1 / 2] rfl (by simp [NonDecr])
  (by intro t h; simp at h; subst h; norm_num) (1 / 2) (by decide +kernel)

section information
open NessaiVerif.Info

/-- **The code's information recursion computes the textbook information** `H = Σ (W_i/Z) lg L_i - lg Z`
(Skilling), for every logarithm function `lg`, every ordered field and every number of increments ≥ 2: one value
is appended per increment except the first (`oldZ = -inf`; the second increment starts from the first point's own
information `lg L₁ - lg Z₁`), and the accumulated `Z` is the rectangle sum. -/
theorem info_eq_textbook [LinearOrder K] [IsStrictOrderedRing K] (lg : K → K) (p q : K × K)
    (rest : List (K × K)) (h : Pos (p :: q :: rest)) :
    let s := (ISt.init : ISt K).run lg (p :: q :: rest)
    s.last = textbook lg (p :: q :: rest) ∧ s.info.length = 2 + rest.length ∧
      s.Z = sumL (terms 1 (p :: q :: rest)) := by
  obtain ⟨hacc, hlen, hpos⟩ := run_init lg p.1 p.2 (q :: rest) h
  have hZ : ((ISt.init : ISt K).run lg (p :: q :: rest)).Z = sumL (terms 1 (p :: q :: rest)) :=
    (run_Z lg _ _).1.trans (zero_add _)
  refine ⟨?_, by rw [hlen, List.length_cons]; omega, hZ⟩
  rw [last_eq_acc lg _ hpos.ne' (by rw [hlen, List.length_cons]; omega), hacc, hZ]
  rfl

example := info_eq_textbook (K := ℚ) (fun x => x) (1, 1 / 2) (2, 1 / 2) [(3, 1 / 2)] (by
  intro p hp; simp at hp; rcases hp with rfl | rfl | rfl <;> norm_num)

/-- the model run on two increments (at `lg = id`, exact rationals): `info = [0, 1/2]`, i.e.
`(W₁·1 + W₂·2)/Z - Z = (1/2 + 1)/1 - 1` -/
example : ((ISt.init : ISt ℚ).run (fun x => x) [(1, 1 / 2), (2, 1 / 2)]).info = [0, 1 / 2] := by
  decide +kernel

/-- **The textbook information is non-negative** (Gibbs' inequality; ℝ, real logarithm, any run of ≥ 1
increments with positive likelihoods and shrinkages in (0,1)): `H ≥ -log Σ π_i ≥ 0`, where `Σ π_i ≤ 1`
(`Info.sumL_prior_le`) is the prior mass of the shells integrated so far.  With it `sqrt(H / nlive)` is a real number. -/
theorem textbook_info_nonneg (steps : List (ℝ × ℝ)) (h : Pos steps) (hne : steps ≠ []) (nlive : Nat) :
    0 ≤ textbook Real.log steps ∧ errSq (textbook Real.log steps) nlive ≠ none := by
  have := textbook_ge steps h hne
  have h0 : 0 ≤ textbook Real.log steps := by linarith [this.1, this.2]
  refine ⟨h0, ?_⟩
  simp [errSq, not_lt.mpr h0]

example := textbook_info_nonneg [(1, 1 / 2), (1, 1 / 2)]
  (by intro p hp; simp at hp; subst hp; norm_num) (by simp) 10

/-- **The reported uncertainty is never NaN**: over ℝ with the real logarithm, after ≥ 2 increments with positive
likelihoods and shrinkages in (0,1) — ties and flat likelihoods included — the information accumulated by the code is
non-negative, so `log_evidence_error = sqrt(info / nlive)` is a real number. -/
theorem code_info_nonneg (p q : ℝ × ℝ) (rest : List (ℝ × ℝ)) (h : Pos (p :: q :: rest)) (nlive : Nat) :
    0 ≤ ((ISt.init : ISt ℝ).run Real.log (p :: q :: rest)).last ∧
      errSq ((ISt.init : ISt ℝ).run Real.log (p :: q :: rest)).last nlive ≠ none := by
  have e := (info_eq_textbook Real.log p q rest h).1
  rw [e]
  exact textbook_info_nonneg _ h (by simp) nlive

example := code_info_nonneg (1, 1 / 2) (1, 1 / 2) [] (by
  intro p hp; simp at hp; subst hp; norm_num) 10

/-- **Why the first point matters** (the defect repaired by `fix: start the information estimate from the first
point`): `closedForm` is the value of the recursion when the first dead point's own information is dropped
(continuing from `info = 0`, as the code did); it differs from the textbook value by `(W₁/Z)(lg W₁ - lg L₁)` — over ℝ
`p₁ · log(1 - t₁) < 0` — … -/
theorem info_without_first_point (lg : K → K) (L t : K) (rest : List (K × K)) :
    closedForm lg ((L, t) :: rest) =
      textbook lg ((L, t) :: rest) +
        (1 * L * (1 - t)) * (lg (1 * L * (1 - t)) - lg L) / sumL (terms 1 ((L, t) :: rest)) := by
  simp only [closedForm, textbook, terms, sumL, weightedLogs]
  ring

/-- … and it can be negative, which made the reported uncertainty NaN: two dead points of equal likelihood with
shrinkage 1/2 give `(2/3) log(1/2) - log(3/4) < 0` (reproduced on the real `_NSIntegralState` before the repair:
`nlive = 1000`, 8000 equal likelihoods, `info = -0.0066`, `log_evidence_error = nan`). -/
theorem info_without_first_point_can_be_negative :
    closedForm Real.log [((1 : ℝ), 1 / 2), (1, 1 / 2)] < 0 ∧
      errSq (closedForm Real.log [((1 : ℝ), 1 / 2), (1, 1 / 2)]) 10 = none := by
  have key : closedForm Real.log [((1 : ℝ), 1 / 2), (1, 1 / 2)] < 0 := by
    have h1 : Real.log ((1 / 2 : ℝ) ^ 2) < Real.log ((3 / 4 : ℝ) ^ 3) :=
      Real.log_lt_log (by norm_num) (by norm_num)
    rw [Real.log_pow, Real.log_pow] at h1
    have e : closedForm Real.log [((1 : ℝ), 1 / 2), (1, 1 / 2)]
        = (2 / 3) * Real.log (1 / 2) - Real.log (3 / 4) := by
      simp only [closedForm, terms, sumL, weightedLogs]
      norm_num
      ring
    rw [e]
    push_cast at h1
    linarith
  exact ⟨key, if_pos key⟩

/-- the information state and the quadrature state of `Model/Quadrature.lean` accumulate the same evidence
when fed the same `increment` calls (the two models describe one object) -/
theorem info_state_Z_eq_quadrature_Z [DecidableEq K] (lg : K → K) (shrink : Nat → K) (n : Nat)
    (calls : List (K × Option Nat)) :
    ((ISt.init : ISt K).run lg (calls.map fun c => (c.1, shrink (c.2.getD n)))).Z =
      ((St.init n).incrMany shrink calls).Z :=
  (run_eq_incrMany lg shrink ISt.init (St.init n) rfl rfl calls).1

example := info_state_Z_eq_quadrature_Z (K := ℚ) (fun x => x) tOfN 2 [(1, none), (2, some 1)]

end information

/-! ## The source, regenerated on every run, IS the model: `increment`, the trapezoid and its users, `compute_weights`, the hand-over loop

`Gen/Increment.lean` is produced by `harness/pylog2lean.py` from the current text of `_NSIntegralState.increment`
(log space ↦ linear domain, statement by statement, `lg`/`ex` uninterpreted).  The two theorems below say that the generated
definition, projected onto the fields each hand-written model keeps, is that model's step — for every field, every
`lg`/`ex`, both expectations, every state, likelihood and optional live count.  All C02 theorems about `St.increment`
(evidence = rectangle rule, volumes, weights) and `ISt.step` (information = textbook `H`) are thereby theorems about the
source as it is now; an edit of `increment` that changes its meaning makes one of these two proofs fail.  The theorems after
them do the same, function by function, for `Gen/Trapezoid.lean`. -/
section source
open NessaiVerif.Incr NessaiVerif.Info
variable {K : Type} [Field K] [DecidableEq K]

theorem increment_source_eq_quadrature_model (lg ex : K → K) (isLogt : Bool) (s : NSt K) (L : K) (nl : Option Nat) :
    (Gen.Increment.increment lg ex isLogt s L nl).toSt = s.toSt.increment (shrinkOf ex isLogt) L nl := by
  -- unfolded, the two sides differ only in the generated `1 + (-t)` against the model's `1 - t`
  simp only [Gen.Increment.increment, NSt.toSt, St.increment, shrinkOf, sub_eq_add_neg]

theorem increment_source_eq_information_model (lg ex : K → K) (isLogt : Bool) (s : NSt K) (L : K) (nl : Option Nat) :
    (Gen.Increment.increment lg ex isLogt s L nl).toISt =
      s.toISt.step lg L (shrinkOf ex isLogt (nl.getD s.base)) := by
  -- the same `1 + (-t)` against `1 - t`, and the new `lastL` is `(Ls ++ [L]).getLastD 0` on the generated side
  simp only [Gen.Increment.increment, NSt.toISt, ISt.step, shrinkOf, sub_eq_add_neg, List.getLastD_concat]

/-- applied (non-vacuity): two increments of a fresh state with expectation "t", through the GENERATED definition,
give the evidence `L₁ (1 - t) + t L₂ (1 - t)` with `t = 2/3` (nlive = 2), at `K = ℚ` -/
example :
    ((Gen.Increment.increment (fun x => x) (fun x => x) false
        (Gen.Increment.increment (fun x => x) (fun x => x) false (NSt.init 2 : NSt ℚ) 1 none) 3 none).Z) = 1 := by
  decide +kernel

theorem avgs_eq_zipWith (f : List K) :
    avgs f = (List.zipWith (· + ·) f.dropLast f.tail).map (fun x => x / (1 + 1)) := by
  induction f using List.twoStepInduction with
  | nil => rfl
  | singleton => rfl
  | cons_cons a b u _ ih =>
    simp only [avgs, List.dropLast_cons_cons, List.tail_cons, List.zipWith_cons_cons, List.map_cons, ih b]

theorem diffs_eq_zipWith (X : List K) : diffs X = List.zipWith (· - ·) X.dropLast X.tail := by
  induction X using List.twoStepInduction with
  | nil => rfl
  | singleton => rfl
  | cons_cons a b u _ ih =>
    simp only [diffs, List.dropLast_cons_cons, List.tail_cons, List.zipWith_cons_cons, ih b]

theorem dot_eq_sumL_zipWith (a b : List K) : dot a b = sumL (List.zipWith (· * ·) a b) := by
  induction a generalizing b with
  | nil => cases b <;> rfl
  | cons x xs ih =>
    cases b with
    | nil => rfl
    | cons y ys => simp only [dot, List.zipWith_cons_cons, sumL, ih]

theorem postWeights_eq_zipWith (L X : List K) (Z : K) :
    postWeights L X Z =
      (List.zipWith (· * ·) L.tail.dropLast (List.zipWith (· - ·) X.dropLast X.tail).dropLast).map (fun x => x / Z) := by
  simp only [postWeights, diffs_eq_zipWith, List.map_zipWith]

/-- `Gen/Trapezoid.lean` is produced by `harness/pylogvec2lean.py` from the current text of `log_integrate_log_trap`
(`logaddexp` of neighbours minus `log 2`, `logsubexp` of neighbouring volumes, `logsumexp` of their sum): it is the model's
trapezoid `trap`, for every pair of vectors -/
theorem trapezoid_source_eq_model (f X : List K) : Gen.Trapezoid.log_integrate_log_trap f X = trap f X := by
  simp only [Gen.Trapezoid.log_integrate_log_trap, trap, avgs_eq_zipWith, diffs_eq_zipWith, dot_eq_sumL_zipWith]

/-- `_NSIntegralState.finalise` of the source (closing point: last likelihood repeated, volume 0) is the model's -/
theorem finalise_source_eq_model (s : St K) : Gen.Trapezoid.finalise s.Ls s.Xs = s.finalise := by
  simp only [Gen.Trapezoid.finalise, St.finalise, trapezoid_source_eq_model]

theorem posterior_weights_source_eq_model (s : St K) : Gen.Trapezoid.log_posterior_weights s.Ls s.Xs = s.postW := by
  simp only [Gen.Trapezoid.log_posterior_weights, St.postW, postWeights_eq_zipWith, trapezoid_source_eq_model]

/-- `_NSIntegralState.get_logx_live_points` of the source (volumes of the remaining live points, both expectations) is the
model's `logxLive` with the shrinkage the source computes (`shrinkOf`); any other value of the lower-cased option leaves
`logt` unbound (`none`) -/
theorem logx_live_source_eq_model (ex : K → K) (s : St K) (n : Nat) (isLogt : Bool) :
    Gen.Trapezoid.get_logx_live_points ex s.w (if isLogt = true then "logt" else "t") n =
      some (s.logxLive (shrinkOf ex isLogt) n) := by
  have h : ("t" : String) ≠ "logt" := by decide
  cases isLogt <;>
    simp only [Gen.Trapezoid.get_logx_live_points, St.logxLive, h, Bool.false_eq_true, if_false, if_true,
      shrinkOf_false, shrinkOf_true]

/-- the volumes `compute_weights` builds: `np.zeros(n + 2)`, inner slice := cumulative sums, last := `-inf` -/
theorem one_pass_vols (cp : List K) (n : Nat) (h : cp.length = n) :
    (setInner (List.replicate (n + 2) (1 : K)) cp).dropLast ++ [0] = [1] ++ cp ++ [0] := by
  have e : setInner (List.replicate (n + 2) (1 : K)) cp = [1] ++ cp ++ [1] := by
    rw [setInner, List.length_replicate, List.drop_replicate, Nat.sub_sub_self (Nat.le_add_left 1 (n + 1))]
    rfl
  rw [e, List.dropLast_concat]

/-- **`posterior.compute_weights` of the source is the model's `computeWeights`** for a per-iteration live-count array of the right
length and at least one sample (an empty sample array raises `IndexError` at `samples[-1]`: the model's `indexErr`), for both
spellings of the expectation; the schedule statement is the subject of `compute_weights_schedule_source_eq_model` -/
theorem compute_weights_source_eq_model (ex : K → K) (samples : List K) (sched : List Nat) (isLogt : Bool)
    (hne : samples ≠ []) (hlen : sched.length = samples.length) :
    Gen.Trapezoid.compute_weights ex sched samples (if isLogt = true then "logt" else "t")
      = computeWeights (shrinkOf ex isLogt) samples (.arr sched) := by
  have hv := one_pass_vols (cumprodFrom 1 (sched.map (shrinkOf ex isLogt))) samples.length
    (by rw [length_cumprodFrom, List.length_map, hlen])
  have h : ("t" : String) ≠ "logt" := by decide
  rw [computeWeights_arr _ _ _ hlen hne, weights, evidence, postWeights_eq_zipWith, ← trapezoid_source_eq_model]
  -- `simp only` unfolds the generated let-chain, takes the branch and puts its volumes in the form `hv` gives; the `rfl` has only
  -- to unfold the model's `closedL` / `closedX` to those same lists
  cases isLogt <;>
    simp only [Gen.Trapezoid.compute_weights, h, Bool.false_eq_true, if_false, if_true, ← shrinkOf_false ex,
      ← shrinkOf_true ex, hv] <;> rfl

/-- the schedule statement of `compute_weights`, read with NumPy's tail-slice assignment, is the model's `scheduleOnePass`
(integer `nlive`: all four cases — `nlive = 0`, `nlive ≤ len`, the broadcast of a single entry, and the `ValueError`s) -/
theorem compute_weights_schedule_source_eq_model (len : Nat) (nl : NLive) :
    Gen.Trapezoid.compute_weights_schedule len nl =
      (match nl with
       | .int n => scheduleOnePass len n
       | .arr ns => if ns.length ≠ len then .error .valueErr else .ok ns) := by
  cases nl with
  | arr ns => rfl
  | int n =>
    simp only [Gen.Trapezoid.compute_weights_schedule, npAssignTail, scheduleOnePass, List.length_replicate,
      length_countdown]
    -- the slice `[-n:]` has `n` entries when `1 ≤ n ≤ len` and `len` entries otherwise
    rcases Nat.eq_zero_or_pos n with rfl | h0
    · cases len <;> simp [countdown]
    · by_cases hle : n ≤ len
      · simp [hle, Nat.ne_of_gt h0, Nat.not_lt.mpr hle]
      · match n, h0, hle with
        | 1, _, hle => simp [show len = 0 by omega, countdown]
        | m + 2, _, hle => simp [hle, Nat.lt_of_not_le hle, Nat.ne_of_gt (Nat.lt_of_not_le hle), countdown]

theorem finalise_loop_from {α : Type} (shrink : Nat → K) (n : Nat) (live : List (α × K)) (k : Nat) (s : St K) (nested : List α) :
    (live.zipIdx k).foldl (fun (acc : St K × List α) (ip : (α × K) × Nat) =>
        ((acc.1.increment shrink ip.1.2 (some (n - ip.2))), (acc.2 ++ [ip.1.1]))) (s, nested)
      = (finaliseLoopFrom shrink n k s (live.map (·.2)), nested ++ live.map (·.1)) := by
  induction live generalizing k s nested with
  | nil => simp [finaliseLoopFrom]
  | cons p ps ih =>
    simp only [List.zipIdx_cons, List.foldl_cons, List.map_cons, finaliseLoopFrom]
    rw [ih (k + 1)]
    simp [List.append_assoc]

/-- **the hand-over loop of `NestedSampler.finalise`, generated from the source, is the model's `finaliseLoopFrom`**: the integral
state sees the live points' likelihoods in order with live counts `nlive, nlive − 1, …`, and the points are appended to the nested
samples in that order (the loop C05's count and order theorems and `state_eq_compute_weights` are about) -/
theorem finalise_loop_source_eq_model {α : Type} (shrink : Nat → K) (n : Nat) (s : St K) (nested : List α) (live : List (α × K)) :
    Gen.Trapezoid.finalise_loop shrink n s nested live
      = (finaliseLoopFrom shrink n 0 s (live.map (·.2)), nested ++ live.map (·.1)) := by
  unfold Gen.Trapezoid.finalise_loop
  exact finalise_loop_from shrink n live 0 s nested

/-- composed with the theorems above: the source's hand-over loop, run on the state that consumed the dead points, yields exactly the
`sampler` state whose `finalise` / `postW` are what the source's one-pass `compute_weights` returns (`state_eq_compute_weights`) -/
theorem finalise_loop_source_is_sampler {α : Type} (shrink : Nat → K) (n : Nat) (dead : List K) (nested : List α) (live : List (α × K)) :
    (Gen.Trapezoid.finalise_loop shrink n (consume shrink (St.init n) dead) nested live).1 = sampler shrink n dead (live.map (·.2)) ∧
    (Gen.Trapezoid.finalise_loop shrink n (consume shrink (St.init n) dead) nested live).2 = nested ++ live.map (·.1) := by
  rw [finalise_loop_source_eq_model]
  exact ⟨rfl, rfl⟩

example : Gen.Trapezoid.get_logx_live_points (fun x => x) (1 : ℚ) "T" 3 = none := by
  simp [Gen.Trapezoid.get_logx_live_points]

example : Gen.Trapezoid.log_integrate_log_trap [(0 : ℚ), 2, 2] [1, 1 / 2, 0] = 3 / 2 := by
  decide +kernel

end source

end NessaiVerif.C02
