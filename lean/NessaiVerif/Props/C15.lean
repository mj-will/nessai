import NessaiVerif.Model.LoopsRun
import NessaiVerif.Proofs.Loops
import NessaiVerif.Proofs.ListSum
import Mathlib.Analysis.SpecialFunctions.Log.Basic
/-
C15 — sampling stops exactly per the stopping rule; finished runs are idempotent.

The guards (`stdWhile`, `stdBot`, `stdFinaliseGuard`, `reached`, `insTop`, `insBot`, the alias table,
`configureStopping`, `cfgMinIteration`, …) are the definitions GENERATED from the Python source in
`Gen/Loops.lean`; the loop skeleton `runLoop` and the assembled `stdRun` / `insRun` are in `Model/`.
`body` is an arbitrary function: the theorems hold whatever one iteration does to the rest of the state,
as long as it leaves the configuration alone and counts the iteration (`StdBodyOk` / `InsBodyOk`).
Order theorems hold for every linear order `K` (the driver runs them at `Ext` = ℚ ∪ {±∞}); criteria
theorems for every linearly ordered field, and their logarithmic forms over ℝ.
-/
namespace NessaiVerif.C15
open NessaiVerif.Loops NessaiVerif.Gen.Loops

section order
variable {K : Type} [LinearOrder K]

/-- what one pass of the standard loop body may do as far as the stopping logic is concerned:
`consume_sample` increments `iteration` once; nothing touches tolerance, cap or the `finalised` flag -/
def StdBodyOk (body : Std K → Std K) : Prop :=
  ∀ s, (body s).iteration = s.iteration + 1 ∧ (body s).tolerance = s.tolerance ∧
       (body s).maxIteration = s.maxIteration ∧ (body s).finalised = s.finalised

/-- the stopping rule of the standard sampler after `j` iterations: the remaining-evidence estimate is
at or below the tolerance, or (only tested after an iteration) the iteration counter reached the cap -/
def StdStop (body : Std K → Std K) (s : Std K) (j : Nat) : Prop :=
  (iter body j s).condition ≤ s.tolerance ∨
    (1 ≤ j ∧ ∃ m, s.maxIteration = Cap.fin m ∧ m ≤ s.iteration + j)

omit [LinearOrder K] in
theorem std_iter_inv {body : Std K → Std K} (hb : StdBodyOk body) (s : Std K) (j : Nat) :
    (iter body j s).iteration = s.iteration + j ∧ (iter body j s).tolerance = s.tolerance ∧
      (iter body j s).maxIteration = s.maxIteration ∧ (iter body j s).finalised = s.finalised := by
  refine ⟨iter_count (·.iteration) (fun t => ?_) j s, iter_fixed (·.tolerance) (fun t => ?_) j s,
    iter_fixed (·.maxIteration) (fun t => ?_) j s, iter_fixed (·.finalised) (fun t => ?_) j s⟩
  -- what is left is the same fact about one body `body t`, one per field of `StdBodyOk`
  all_goals obtain ⟨h1, h2, h3, h4⟩ := hb t
  exacts [h1, h2, h3, h4]

/-- the exit test of the generated loop (`stdWhile` false, or `stdBot` true after a body) is the
stopping rule `StdStop` — this is where the generated comparison operators are pinned down -/
theorem std_stopAt_iff {body : Std K → Std K} (hb : StdBodyOk body) (s : Std K) (j : Nat) :
    stopAt stdWhile stdTop stdBot body s j = true ↔ StdStop body s j := by
  obtain ⟨i1, i2, i3, _⟩ := std_iter_inv hb s j
  -- unfolds the generated guards: `!decide (condition > tolerance)` has to come out as `condition ≤ tolerance`, and
  -- `Cap.ge iteration maxIteration` as the cap clause through `Cap.ge_iff`; `i1 i2 i3` carry the fields back to `s`
  simp [stopAt, StdStop, stdWhile, stdTop, stdBot, i1, i2, i3, Cap.ge_iff]

/-- **The standard sampler stops exactly per its rule.**  For every body, every tolerance and cap and
every trajectory of condition values: the loop leaves after exactly `k` iterations iff `k` is the FIRST
index at which `condition ≤ tolerance` or (after at least one iteration) `iteration ≥ max_iteration` —
never earlier, never later.  (`fuel` only bounds how far we follow the loop.) -/
theorem standard_stops_first (body : Std K → Std K) (hb : StdBodyOk body) (s : Std K)
    (fuel k : Nat) (s' : Std K) :
    runLoop stdWhile stdTop stdBot body fuel s 0 = some (k, s') ↔
      (k ≤ fuel ∧ s' = iter body k s ∧ StdStop body s k ∧ ∀ j, j < k → ¬ StdStop body s j) :=
  runLoop_first_iff (std_stopAt_iff hb s) fuel k s'

theorem standard_terminates (body : Std K → Std K) (hb : StdBodyOk body) (s : Std K) (fuel : Nat)
    (h : ∃ j, j ≤ fuel ∧ StdStop body s j) :
    ∃ k s', runLoop stdWhile stdTop stdBot body fuel s 0 = some (k, s') :=
  runLoop_isSome (std_stopAt_iff hb s) fuel h

theorem std_one_iteration_at_cap {body : Std K → Std K} (hb : StdBodyOk body) {s : Std K} {m : Int}
    (hcap : s.maxIteration = Cap.fin m) (hit : m ≤ s.iteration) (hc : s.tolerance < s.condition)
    {fuel : Nat} (hfuel : 1 ≤ fuel) :
    runLoop stdWhile stdTop stdBot body fuel s 0 = some (1, body s) := by
  rw [standard_stops_first body hb]
  refine ⟨hfuel, rfl, Or.inr ⟨Nat.le_refl _, m, hcap, by omega⟩, ?_⟩
  intro j hj
  obtain rfl : j = 0 := by omega
  rintro (h | ⟨h, _⟩)
  · exact absurd hc (not_lt.mpr h)
  · omega

/-- the cap is only looked at after an iteration: a sampler entering the loop with its iteration counter
already at the cap (and the condition above the tolerance) still performs one iteration -/
theorem standard_cap_checked_after_body (body : Std K → Std K) (hb : StdBodyOk body) (s : Std K) (m : Int)
    (hcap : s.maxIteration = Cap.fin m) (hit : m ≤ s.iteration) (hc : s.tolerance < s.condition) :
    runLoop stdWhile stdTop stdBot body 1 s 0 = some (1, body s) :=
  std_one_iteration_at_cap hb hcap hit hc (Nat.le_refl 1)

theorem stdRun_some {body : Std K → Std K} (hb : StdBodyOk body) {s s' : Std K} {fuel k : Nat}
    (hnf : s.finalised = false) (h : stdRun body fuel s = some (k, s')) :
    runLoop stdWhile stdTop stdBot body fuel s 0 = some (k, iter body k s) ∧
      s' = if (iter body k s).condition ≤ s.tolerance then stdFinalise (iter body k s) else iter body k s := by
  rw [stdRun_of_not_finalised body fuel hnf, Option.map_eq_some_iff] at h
  obtain ⟨⟨k1, s1⟩, hrun, heq⟩ := h
  obtain ⟨rfl, rfl⟩ := Prod.mk.inj heq
  obtain rfl := ((standard_stops_first body hb s fuel k1 s1).mp hrun).2.1
  obtain ⟨_, i2, _, i4⟩ := std_iter_inv hb s k1
  refine ⟨hrun, ?_⟩
  simp only [stdFinaliseGuard, i2, i4, hnf, Bool.not_false, Bool.true_and, decide_eq_true_eq]

/-- `finalise` runs iff the loop was left with the condition at or below the tolerance; a run stopped
only by the iteration cap is NOT finalised (its live points stay unconsumed).  `hset`: whether `finalise` sets the flag is
read off the source on every run (`Gen.Loops.finaliseSetsFlag`); as a hypothesis it keeps the statement independent of the
generated value, and `final_checkpoint_holds_flag` discharges it for the current source. -/
theorem finalise_iff (body : Std K → Std K) (hb : StdBodyOk body) (s : Std K) (fuel k : Nat) (s' : Std K)
    (hnf : s.finalised = false) (hset : finaliseSetsFlag = true)
    (h : stdRun body fuel s = some (k, s')) :
    (s'.finalised = true ↔ (iter body k s).condition ≤ s.tolerance) ∧
      ((iter body k s).condition ≤ s.tolerance → s' = stdFinalise (iter body k s)) ∧
      (¬ (iter body k s).condition ≤ s.tolerance → s' = iter body k s) := by
  obtain ⟨_, rfl⟩ := stdRun_some hb hnf h
  obtain ⟨-, -, -, i4⟩ := std_iter_inv hb s k
  by_cases hc : (iter body k s).condition ≤ s.tolerance
  · simp [hc, stdFinalise, hset]
  · simp [hc, i4, hnf]

omit [LinearOrder K] in
/-- **`finalise` consumes every remaining live point exactly once.**  With `n` live points left
(`nlive = n`), the evidence integrator is incremented once per live point, in order, with live counts
`n, n-1, …, 1`; the live points are appended to the nested samples once, in order; the live set is
cleared and the `finalised` flag set. -/
theorem finalise_consumes_once (s : Std K) (l : List Nat) (hl : s.live = some l) (hn : s.nlive = l.length) :
    (stdFinalise s).nested = s.nested ++ l ∧
    (stdFinalise s).incs = s.incs ++ l.zipIdx.map (fun q => (q.1, (l.length : Int) - (q.2 : Int))) ∧
    (stdFinalise s).live = none ∧ (stdFinalise s).finalised = true ∧
    (∀ p, ((stdFinalise s).nested.drop s.nested.length).count p = l.count p) ∧
    (∀ q ∈ ((stdFinalise s).incs.drop s.incs.length), 1 ≤ q.2 ∧ q.2 ≤ l.length) := by
  rw [stdFinalise_eq, hl, hn]
  refine ⟨rfl, rfl, rfl, rfl, fun p => by simp, fun q hq => ?_⟩
  simp only [Option.getD_some, List.drop_left, List.mem_map] at hq
  obtain ⟨⟨x, i⟩, hmem, rfl⟩ := hq
  have := List.mem_zipIdx hmem
  simp only
  omega

/-- **The finalised short-circuit.**  On a state whose `finalised` flag is set, `nested_sampling_loop`
(any body, any fuel) executes 0 bodies — no likelihood is evaluated — and hands back the stored state
itself: nested samples, evidence increments, live set, condition and iteration counter are the stored ones. -/
theorem finalised_entry_returns_stored (body : Std K → Std K) (fuel : Nat) (s : Std K)
    (hf : s.finalised = true) :
    stdRun body fuel s = some (0, s) := by
  simp [stdRun, stdEntryReturn, hf]

/-- **A run that stopped by its tolerance is idempotent.**  If `nested_sampling_loop`, entered unfinished,
returned after `k` iterations with `condition ≤ tolerance`, then a second call — with any body and any
fuel — performs 0 iterations and returns exactly the state the first call returned (same nested samples,
same evidence increments, no live points, same iteration counter). -/
theorem rerun_idempotent (body body' : Std K → Std K) (hb : StdBodyOk body) (s s' : Std K)
    (fuel fuel' k : Nat) (hnf : s.finalised = false) (hset : finaliseSetsFlag = true)
    (h : stdRun body fuel s = some (k, s')) (htol : (iter body k s).condition ≤ s.tolerance) :
    stdRun body' fuel' s' = some (0, s') :=
  finalised_entry_returns_stored body' fuel' s'
    ((finalise_iff body hb s fuel k s' hnf hset h).1.mpr htol)

/-- **…and a run that stopped only by `max_iteration` is not** (behaviour of the code, reported as a known
finding): if the first call returned with the condition still above the tolerance, the returned state is not
finalised and a second call, given room for one iteration, performs exactly one more iteration. -/
theorem rerun_after_cap_iterates (body body' : Std K → Std K) (hb : StdBodyOk body) (hb' : StdBodyOk body')
    (s s' : Std K) (fuel fuel' k : Nat) (hnf : s.finalised = false) (hset : finaliseSetsFlag = true)
    (h : stdRun body fuel s = some (k, s')) (hcap : ¬ (iter body k s).condition ≤ s.tolerance)
    (hfuel : 1 ≤ fuel') :
    s'.finalised = false ∧ ∃ s'', stdRun body' fuel' s' = some (1, s'') ∧ s''.iteration = s'.iteration + 1 := by
  obtain ⟨hrun, hs'⟩ := stdRun_some hb hnf h
  rw [if_neg hcap] at hs'
  subst hs'
  obtain ⟨i1, i2, i3, i4⟩ := std_iter_inv hb s k
  have hnf' : (iter body k s).finalised = false := i4.trans hnf
  -- the first loop was left through the cap test
  obtain hc | ⟨_, m, hm, hle⟩ := ((standard_stops_first body hb s fuel k _).mp hrun).2.2.1
  · exact absurd hc hcap
  · have hloop := std_one_iteration_at_cap hb' (i3.trans hm) (by omega) (by rw [i2]; exact not_le.mp hcap) hfuel
    refine ⟨hnf', _, by rw [stdRun_of_not_finalised body' fuel' hnf', hloop]; rfl, ?_⟩
    -- finalised or not, the iteration counter is the one the body left
    dsimp only
    split <;> exact (hb' _).1

end order

/-- the flag is needed: a standard run stopped by `max_iteration` alone is not finalised, and a second call
performs one more iteration (this is the behaviour of the code; reported as a finding) -/
theorem rerun_idempotent_fails_without :
    let s0 : Std Ext := {
      finalised := false, iteration := 0, condition := .pinf, tolerance := .fin (1/10),
      maxIteration := .fin 2, nlive := 3, live := some [1, 2, 3], nested := [], incs := [], bodies := 0,
      traj := [.fin 5, .fin 4, .fin 3, .fin 2] }
    let first := stdRun stdScriptBody 10 s0
    let second := first.bind fun r => stdRun stdScriptBody 10 r.2
    first.map (fun r => (r.1, r.2.finalised, r.2.bodies, r.2.nested)) = some (2, false, 2, [1, 2]) ∧
      second.map (fun r => (r.1, r.2.finalised, r.2.bodies, r.2.nested)) = some (1, false, 3, [1, 2, 3]) := by
  decide +kernel

section ins
variable {K : Type} [LinearOrder K]

/-- what one iteration of the importance sampler may do as far as the stopping logic is concerned -/
def InsBodyOk (body : Ins K → Ins K) : Prop :=
  ∀ s, (body s).iteration = s.iteration + 1 ∧ (body s).tolerance = s.tolerance ∧
       (body s).stopAny = s.stopAny ∧ (body s).minIteration = s.minIteration ∧
       (body s).maxIteration = s.maxIteration ∧ (body s).finalised = s.finalised

/-- SPECIFICATION of "the configured criteria meet their tolerances", written by hand and by index, with no
reference to the generated code: the k-th criterion value is compared with the k-th tolerance, the value on
the LEFT of `≤`; `any`: some index qualifies, `all`: every index does -/
def Met (stopAny : Bool) (crit tol : List K) : Prop :=
  if stopAny then ∃ i, ∃ (h1 : i < crit.length) (h2 : i < tol.length), crit[i] ≤ tol[i]
  else ∀ i, ∀ (h1 : i < crit.length) (h2 : i < tol.length), crit[i] ≤ tol[i]

/-- the GENERATED `reached_tolerance` (translated from the source: which of any/all sits in which branch,
the comparison operator and its direction, the zip order) decides exactly the hand-written specification `Met` -/
theorem reached_any_all (s : Ins K) : reached s = true ↔ Met s.stopAny s.criterion s.tolerance := by
  unfold reached Met
  cases s.stopAny
  · simp only [Bool.false_eq_true, if_false, all_zipWith_iff_index, decide_eq_true_eq]
  · simp only [if_true, any_zipWith_iff_index, decide_eq_true_eq]

/-- the stopping rule of the importance sampler after `j` iterations -/
def InsStop (body : Ins K → Ins K) (s : Ins K) (j : Nat) : Prop :=
  (Met s.stopAny (iter body j s).criterion s.tolerance ∧ s.minIteration ≤ s.iteration + j) ∨
    (1 ≤ j ∧ ∃ m, s.maxIteration = Cap.fin m ∧ m ≤ s.iteration + j)

omit [LinearOrder K] in
theorem ins_iter_inv {body : Ins K → Ins K} (hb : InsBodyOk body) (s : Ins K) (j : Nat) :
    (iter body j s).iteration = s.iteration + j ∧ (iter body j s).tolerance = s.tolerance ∧
      (iter body j s).stopAny = s.stopAny ∧ (iter body j s).minIteration = s.minIteration ∧
      (iter body j s).maxIteration = s.maxIteration ∧ (iter body j s).finalised = s.finalised := by
  refine ⟨iter_count (·.iteration) (fun t => ?_) j s, iter_fixed (·.tolerance) (fun t => ?_) j s,
    iter_fixed (·.stopAny) (fun t => ?_) j s, iter_fixed (·.minIteration) (fun t => ?_) j s,
    iter_fixed (·.maxIteration) (fun t => ?_) j s, iter_fixed (·.finalised) (fun t => ?_) j s⟩
  -- what is left is the same fact about one body `body t`, one per field of `InsBodyOk`
  all_goals obtain ⟨h1, h2, h3, h4, h5, h6⟩ := hb t
  exacts [h1, h2, h3, h4, h5, h6]

/-- the exit test of the generated importance loop (`insTop` before the body, `insBot` after it) is the
stopping rule `InsStop` -/
theorem ins_stopAt_iff {body : Ins K → Ins K} (hb : InsBodyOk body) (s : Ins K) (j : Nat) :
    stopAt insWhile insTop insBot body s j = true ↔ InsStop body s j := by
  obtain ⟨i1, i2, i3, i4, i5, _⟩ := ins_iter_inv hb s j
  have hr := reached_any_all (iter body j s)
  rw [i2, i3] at hr
  -- unfolds the generated guards: `reached` is `Met` by `hr`, `decide (iteration ≥ minIteration)` has to come out as the
  -- minimum clause and `Cap.ge iteration maxIteration` as the cap clause through `Cap.ge_iff`
  simp [stopAt, InsStop, insWhile, insTop, insBot, i1, i4, i5, hr, Cap.ge_iff]

/-- **The importance sampler stops exactly per its rule.**  The loop leaves after exactly `k` iterations iff
`k` is the FIRST index at which (the criteria, combined by any/all, meet their tolerances AND
`iteration ≥ min_iteration`) or (after at least one iteration) `iteration ≥ max_iteration`.  The criteria
test sits at the top of the loop, the cap test at the bottom after `iteration += 1` — as in the source. -/
theorem ins_stops_first (body : Ins K → Ins K) (hb : InsBodyOk body) (s : Ins K)
    (fuel k : Nat) (s' : Ins K) :
    runLoop insWhile insTop insBot body fuel s 0 = some (k, s') ↔
      (k ≤ fuel ∧ s' = iter body k s ∧ InsStop body s k ∧ ∀ j, j < k → ¬ InsStop body s j) :=
  runLoop_first_iff (ins_stopAt_iff hb s) fuel k s'

theorem ins_terminates (body : Ins K → Ins K) (hb : InsBodyOk body) (s : Ins K) (fuel : Nat)
    (h : ∃ j, j ≤ fuel ∧ InsStop body s j) :
    ∃ k s', runLoop insWhile insTop insBot body fuel s 0 = some (k, s') :=
  runLoop_isSome (ins_stopAt_iff hb s) fuel h

/-- with the defaults of `configure_iterations` (no minimum, no cap) the rule is the criteria alone:
`min_iteration = -1` never delays a non-negative iteration counter and `max_iteration = ∞` never fires -/
theorem ins_default_iterations (body : Ins K → Ins K) (s : Ins K) (j : Nat)
    (hmin : s.minIteration = cfgMinIteration none) (hmax : s.maxIteration = cfgMaxIteration none)
    (hit : 0 ≤ s.iteration) :
    InsStop body s j ↔ Met s.stopAny (iter body j s).criterion s.tolerance := by
  unfold InsStop
  simp only [hmin, hmax, cfgMinIteration, cfgMaxIteration]
  constructor
  · rintro (⟨h, _⟩ | ⟨_, m, hm, _⟩)
    · exact h
    · cases hm
  · intro h; exact Or.inl ⟨h, by omega⟩

/-- **The importance sampler always finalises, once.**  However the loop was left (criteria or cap), the
returned state is finalised, the live set is cleared, and the model's nested list is the one before followed by
the remaining live points, each once.  The position is the model's: `OrderedSamples.finalise` merges the live
indices into the nested ones at their `searchsorted` places, and `harness/c15.py` reorders the code's list (entries
held before first) before it compares. -/
theorem ins_finalise_consumes_once (body : Ins K → Ins K) (hb : InsBodyOk body) (s : Ins K)
    (fuel k : Nat) (s' : Ins K) (hnf : s.finalised = false) (h : insRun body fuel s = some (k, s')) :
    s'.finalised = true ∧ s'.live = none ∧
      s'.nested = (iter body k s).nested ++ (iter body k s).live.getD [] := by
  rw [insRun_of_not_finalised body fuel hnf, Option.map_eq_some_iff] at h
  obtain ⟨⟨k1, s1⟩, hrun, heq⟩ := h
  obtain ⟨rfl, rfl⟩ := Prod.mk.inj heq
  obtain rfl := ((ins_stops_first body hb s fuel k1 s1).mp hrun).2.1
  obtain ⟨-, -, -, -, -, i6⟩ := ins_iter_inv hb s k1
  simp [insFinalise, i6, hnf]

/-- **A finalised importance sampler is idempotent**: a further call of `nested_sampling_loop` returns the
same state with no iteration performed; `finalise` itself also returns at once on a finalised sampler. -/
theorem ins_rerun_idempotent (body body' : Ins K → Ins K) (fuel fuel' k : Nat) (s s' : Ins K)
    (hb : InsBodyOk body) (hnf : s.finalised = false) (h : insRun body fuel s = some (k, s')) :
    insRun body' fuel' s' = some (0, s') ∧ insFinalise s' = s' := by
  have hf := (ins_finalise_consumes_once body hb s fuel k s' hnf h).1
  simp [insRun, insEntryReturn, insFinalise, hf]

end ins

/-- **Alias resolution is total and unambiguous**: every name in the alias table resolves to exactly one
canonical criterion — the key of the list it appears in — and every canonical name is its own alias. -/
theorem alias_resolution_total :
    (∀ e ∈ aliasTable, ∀ a ∈ e.2, resolve [a] = [e.1]) ∧
    (∀ e ∈ aliasTable, e.1 ∈ e.2) ∧ (allAliases aliasTable).Nodup := by
  decide +kernel

/-- **The k-th tolerance belongs to the k-th criterion the user named.**  For every list of known names the
resolved list is the user's list mapped through the alias table IN THE USER'S ORDER (same length, k-th entry =
canonical criterion of the k-th name), so zipping it with the user's tolerance list pairs every criterion
with the tolerance given for it.  (Breaks if the two resolution loops are nested table-first.) -/
theorem resolved_in_user_order (names : List String) (h : ∀ x ∈ names, x ∈ allAliases aliasTable) :
    (resolve names).map some = names.map (canonOf aliasTable) ∧ (resolve names).length = names.length := by
  have h1 : (resolve names).map some = names.map (canonOf aliasTable) := by
    refine resolveNames_user_order aliasTable names fun x hx => ?_
    obtain ⟨e, he, hxe⟩ := List.mem_flatMap.mp (h x hx)
    exact ⟨e.1, alias_resolution_total.1 e he x hxe⟩
  exact ⟨h1, by simpa using congrArg List.length h1⟩

/-- the order matters: resolving table-first would hand `ess` the tolerance given for `ratio` -/
theorem resolved_in_user_order_fails_without :
    resolveNamesTableMajor aliasTable ["ess", "ratio"] = ["ratio", "ess"] ∧ resolve ["ess", "ratio"] = ["ess", "ratio"] := by
  decide +kernel

/-- a list of names is rejected when none of them is known, or when the number of RESOLVED criteria
differs from the number of tolerances; `check_criteria` must be `any` or `all` -/
theorem configure_errors (names : List String) (nTol : Nat) (check : String) :
    ((∀ x ∈ names, x ∉ allAliases aliasTable) → configureStopping names nTol check = .error .unknownCriterion) ∧
    (resolve names ≠ [] → (resolve names).length ≠ nTol →
        configureStopping names nTol check = .error .lengthMismatch) ∧
    (resolve names ≠ [] → (resolve names).length = nTol →
        check ≠ "any" → check ≠ "all" → configureStopping names nTol check = .error .badCheck) ∧
    (resolve names ≠ [] → (resolve names).length = nTol →
        (check = "any" ∨ check = "all") →
        configureStopping names nTol check = .ok (resolve names, check == "any")) := by
  refine ⟨?_, ?_, ?_, ?_⟩
  · intro h
    have : resolve names = [] := resolveNames_unknown aliasTable names h
    simp [configureStopping, this]
  · intro h1 h2
    simp [configureStopping, h1, h2]
  · intro h1 h2 h3 h4
    simp [configureStopping, h1, h2, h3, h4]
  · intro h1 h2 h3
    rcases h3 with h3 | h3 <;> simp [configureStopping, h1, h2, h3]

/-- a single name outside the table is rejected (`ValueError: Unknown stopping criterion`), whatever
the tolerances and `check_criteria` -/
theorem unknown_rejected (x : String) (hx : x ∉ allAliases aliasTable) (nTol : Nat) (check : String) :
    configureStopping [x] nTol check = .error .unknownCriterion := by
  -- the first clause of `configure_errors`: no name of the list is known
  apply (configure_errors [x] nTol check).1
  intro y hy
  rw [List.mem_singleton.mp hy]
  exact hx

/-- "unknown name → error" needs the hypothesis that NO name is known: an unknown name next to a known one
is dropped silently when the tolerance count matches the resolved list (behaviour of the code) -/
theorem unknown_rejected_fails_without :
    (configureStopping ["ess", "no_such_criterion"] 1 "any").toOption = some (["ess"], true) := by
  decide +kernel

/-- the final forced checkpoint is written after the `finalised` flag is set (both samplers), so a sampler
resumed from it takes the short-circuit of `rerun_idempotent`; the INS flag is set only after both sample
stores were finalised -/
theorem final_checkpoint_holds_flag :
    stdFinaliseBeforeCheckpoint = true ∧ finaliseSetsFlag = true ∧ finaliseClearsLive = true ∧
      insFlagBeforeCheckpoint = true ∧ insFinaliseStoresFirst = true := by
  decide

/-- a re-entered finished sampler returns the same expressions as the call that finished it: the importance
sampler's short-circuit returns literally what the normal exit returns (`self.log_evidence, self.samples` —
the physical-space samples, not the unit-hypercube view), and the standard sampler returns a pair in both places
whose last entry is `np.array(self.nested_samples)`.  The first entries of the standard pair are spelt differently
(`self.log_evidence`, a property reading `self.state.logZ`, and `self.state.logZ`) and are not compared here. -/
theorem rerun_returns_same_expressions :
    insEntryReturnExprs = insExitReturnExprs ∧ insEntryReturnExprs.length = 2 ∧
      stdEntryReturnExprs.getLast? = stdExitReturnExprs.getLast? ∧ stdEntryReturnExprs.length = 2 ∧
      stdExitReturnExprs.length = 2 := by
  decide +kernel

/-- shape of the loop bodies: `consume_sample` is called exactly once per pass; in the importance sampler
the criterion is recomputed exactly once per pass and before the single `iteration += 1` -/
theorem body_shape :
    stdBodyCalls.count "consume_sample" = 1 ∧
      insBodyCalls.count "criterion=compute_stopping_criterion" = 1 ∧ insBodyCalls.count "iteration+=1" = 1 ∧
      insBodyCalls.idxOf "criterion=compute_stopping_criterion" < insBodyCalls.idxOf "iteration+=1" := by
  decide +kernel

section crit
variable {K : Type} [Field K] [LinearOrder K] [IsStrictOrderedRing K]

/-- **ESS is Kish's effective sample size.**  The quantity compared for the `ess` criterion — computed by
the code as `1 / Σ p̂²` from the doubly normalised posterior weights — equals `(Σw)² / Σw²`. -/
theorem ess_def (ws : List K) (hs : sumK ws ≠ 0) : essCode ws = essKish ws := by
  have hne : ws ≠ [] := by rintro rfl; exact hs rfl
  have hn : (ws.length : K) ≠ 0 := Nat.cast_ne_zero.mpr (by simpa using hne)
  rw [sumK_eq_sum] at hs
  have hz : evidence ws ≠ 0 := by rw [evidence, sumK_eq_sum]; exact div_ne_zero hs hn
  -- the doubly normalised weight `(w / Ẑ) / Σ (w / Ẑ)` is `w / Σw`
  have hph : (ws.map (· / evidence ws)).map (· / sumK (ws.map (· / evidence ws))) = ws.map (· / ws.sum) := by
    rw [sumK_eq_sum, sum_map_div, List.map_map]
    exact List.map_congr_left fun w _ => div_div_div_cancel_right₀ hz w _
  have hsq : (ws.map (· / ws.sum)).map (fun x => x * x) = (ws.map fun w => w * w).map (· / (ws.sum * ws.sum)) := by
    simp only [List.map_map, Function.comp_def, div_mul_div_comm]
  show 1 / sumK (((ws.map (· / evidence ws)).map (· / sumK (ws.map (· / evidence ws)))).map fun x => x * x) = _
  rw [hph, hsq, sumK_eq_sum, sum_map_div, one_div_div, essKish, sumK_eq_sum, sumK_eq_sum]

/-- for at least two samples (with one sample the code divides by `n − 1 = 0` and reports NaN, which is
outside the model) the squared standard error `u²` of `compute_uncertainty` is the unbiased sample variance
of the weights divided by `n`: `(Σw² − (Σw)²/n) / (n (n−1))`, and the compared relative error is `u² / Ẑ²` -/
theorem Z_err_def (ws : List K) (h2 : 2 ≤ ws.length) :
    errSq ws = (sumK (ws.map fun w => w * w) - sumK ws * sumK ws / (ws.length : K)) /
        ((ws.length : K) * ((ws.length : K) - 1)) ∧
    (ws.length : K) * ((ws.length : K) - 1) ≠ 0 ∧
    relErrSq ws = errSq ws / (evidence ws * evidence ws) := by
  have hn : (ws.length : K) ≠ 0 := Nat.cast_ne_zero.mpr (by omega)
  have hn1 : (ws.length : K) - 1 ≠ 0 := sub_ne_zero.mpr (Nat.cast_ne_one.mpr (by omega))
  refine ⟨?_, mul_ne_zero hn hn1, rfl⟩
  simp only [errSq, evidence, sumK_eq_sum, sum_sq_dev_mean ws hn]

omit [LinearOrder K] [IsStrictOrderedRing K] in
/-- the evidence estimate is the arithmetic mean of the weights and the evidence-ratio criteria compare ratios
of MEAN weights, stated with the library sum `List.sum` (not the model's own fold): `exp(ratio) =
mean(w above threshold) / mean(w all)` — the numerator is averaged over the samples above only — and
`exp(ratio_ns) = mean(w live) / mean(w nested)` -/
theorem ratio_def (above all live nested : List K) :
    evidence all = all.sum / (all.length : K) ∧
    ratioLin above all = (above.sum / (above.length : K)) / (all.sum / (all.length : K)) ∧
    ratioNsLin live nested = (live.sum / (live.length : K)) / (nested.sum / (nested.length : K)) := by
  simp only [ratioLin, ratioNsLin, evidence, sumK_eq_sum, and_self]

end crit

/-- `ratio = log Ẑ_above − log Ẑ` is the logarithm of the linear ratio (positive weights) -/
theorem ratio_log (above all : List ℝ) (ha : 0 < evidence above) (hb : 0 < evidence all) :
    Real.log (evidence above) - Real.log (evidence all) = Real.log (ratioLin above all) := by
  unfold ratioLin
  rw [Real.log_div ha.ne' hb.ne']

/-- `ratio_ns = log Ẑ_live − log Ẑ_nested` is the logarithm of the linear ratio when BOTH evidences are positive -/
theorem ratio_ns_log (live nested : List ℝ) (ha : 0 < evidence live) (hb : 0 < evidence nested) :
    Real.log (evidence live) - Real.log (evidence nested) = Real.log (ratioNsLin live nested) := by
  unfold ratioNsLin
  rw [Real.log_div ha.ne' hb.ne']

/-- … and ONLY then: when the nested evidence is zero (every discarded sample at likelihood zero — a likelihood that is `-inf` on
part of the prior) the model's quotient is the field's totalised `x / 0 = 0`, while the code's `log Ẑ_live − log 0` is `+inf`.
That point is outside the model: the correspondence decides it by the logarithms (DESIGN 11.3, the false alarm at seed 52). -/
theorem ratio_ns_outside_domain (live nested : List ℝ) (hb : evidence nested = 0) : ratioNsLin live nested = 0 := by
  unfold ratioNsLin
  rw [hb, div_zero]

/-- `log_dZ = |log Ẑ_k − log Ẑ_{k−1}|` is the logarithm of `max/min` of the two evidences, so
`log_dZ ≤ t` iff the evidences differ by a factor of at most `e^t` -/
theorem log_dZ_def (a b t : ℝ) (ha : 0 < a) (hb : 0 < b) :
    |Real.log a - Real.log b| = Real.log (max a b / min a b) ∧
      (|Real.log a - Real.log b| ≤ t ↔ max a b / min a b ≤ Real.exp t) := by
  have key : |Real.log a - Real.log b| = Real.log (max a b / min a b) := by
    rcases le_total a b with h | h
    · rw [max_eq_right h, min_eq_left h, Real.log_div hb.ne' ha.ne', abs_sub_comm]
      exact abs_of_nonneg (sub_nonneg.mpr (Real.log_le_log ha h))
    · rw [max_eq_left h, min_eq_right h, Real.log_div ha.ne' hb.ne']
      exact abs_of_nonneg (sub_nonneg.mpr (Real.log_le_log hb h))
  refine ⟨key, ?_⟩
  rw [key]
  have hpos : 0 < max a b / min a b := div_pos (lt_max_of_lt_left ha) (lt_min ha hb)
  rw [← Real.log_le_iff_le_exp hpos]

/-- `Z_err = exp(|u / Ẑ|)` with `u = √errSq`: the exponent is `√relErrSq`, the relative standard error -/
theorem Z_err_log (ws : List ℝ) (hZ : 0 < evidence ws) :
    |Real.sqrt (errSq ws) / evidence ws| = Real.sqrt (relErrSq ws) := by
  unfold relErrSq
  rw [Real.sqrt_div' _ (mul_self_nonneg _), Real.sqrt_mul_self hZ.le]
  exact abs_of_nonneg (div_nonneg (Real.sqrt_nonneg _) hZ.le)

/-! ### non-vacuity: theorems above applied to concrete states, which shows that their hypotheses can be met -/

/-- the scripted bodies used by the driver satisfy the body hypotheses -/
theorem stdScriptBody_ok : StdBodyOk (stdScriptBody (K := Ext)) := by intro s; simp [stdScriptBody]
theorem insScriptBody_ok : InsBodyOk (insScriptBody (K := Ext)) := by intro s; simp [insScriptBody]

/-- a fresh standard sampler: conditions ∞, 5, 1/2, 1/20 against tolerance 1/10, three live points -/
def demoStd (cap : Cap) : Std Ext := {
  finalised := false, iteration := 0, condition := .pinf, tolerance := .fin (1/10),
  maxIteration := cap, nlive := 3, live := some [1, 2, 3], nested := [], incs := [], bodies := 0,
  traj := [.fin 5, .fin (1/2), .fin (1/20), .fin 0] }

/-- a fresh importance sampler: two criteria combined by `all`, minimum 2, cap 9 -/
def demoIns : Ins Ext := {
  finalised := false, iteration := 0, criterion := [.pinf, .pinf],
  tolerance := [.fin 0, .fin (1/100)], stopAny := false, minIteration := 2, maxIteration := .fin 9,
  live := some [7, 8], nested := [1], bodies := 0,
  traj := [[.fin (-1), .fin 1], [.fin 1, .fin 0], [.fin (-1), .fin (1/100)], [.fin (-5), .fin 0]] }

/-- the concrete standard run stops after exactly 3 iterations; finalise consumes the three remaining live
points with counts 3, 2, 1 -/
example :
    let r := stdRun stdScriptBody 10 (demoStd .inf)
    r.map (fun r => (r.1, r.2.finalised, r.2.live)) = some (3, true, none) ∧
      r.map (fun r => r.2.nested) = some [1, 2, 3, 1000, 1001, 1002] ∧
      r.map (fun r => r.2.incs) = some [(1000, 3), (1001, 2), (1002, 1)] := by
  decide +kernel

/-- the same sampler with `max_iteration = 2` stops after 2 iterations, not finalised -/
example : (stdRun stdScriptBody 10 (demoStd (.fin 2))).map (fun r => (r.1, r.2.finalised)) = some (2, false) := by
  decide +kernel

/-- the concrete importance run stops after 3 iterations -/
example : (insRun insScriptBody 10 demoIns).map (fun r => (r.1, r.2.finalised, r.2.nested, r.2.live)) =
    some (3, true, [1, 7, 8], none) := by
  decide +kernel

example := std_iter_inv stdScriptBody_ok (demoStd .inf) 2
example := std_stopAt_iff stdScriptBody_ok (demoStd .inf) 3
example (fuel k : Nat) (s' : Std Ext) := standard_stops_first stdScriptBody stdScriptBody_ok (demoStd .inf) fuel k s'
example : ∃ k s', runLoop stdWhile stdTop stdBot stdScriptBody 10 (demoStd .inf) 0 = some (k, s') :=
  standard_terminates stdScriptBody stdScriptBody_ok (demoStd .inf) 10 ⟨3, by decide, Or.inl (by decide +kernel)⟩
example := standard_cap_checked_after_body stdScriptBody stdScriptBody_ok
  ({ demoStd (.fin 0) with condition := .fin 5 }) 0 rfl (by decide) (by decide +kernel)
example (s' : Std Ext) (h : stdRun stdScriptBody 10 (demoStd .inf) = some (3, s')) : s'.finalised = true :=
  (finalise_iff stdScriptBody stdScriptBody_ok (demoStd .inf) 10 3 s' rfl rfl h).1.mpr (by decide +kernel)
example := finalise_consumes_once (demoStd .inf) [1, 2, 3] rfl rfl
example := finalised_entry_returns_stored stdScriptBody 7 ({ demoStd .inf with finalised := true }) rfl
example (s' : Std Ext) (h : stdRun stdScriptBody 10 (demoStd .inf) = some (3, s')) :
    stdRun stdScriptBody 5 s' = some (0, s') :=
  rerun_idempotent stdScriptBody stdScriptBody stdScriptBody_ok (demoStd .inf) s' 10 5 3 rfl rfl h (by decide +kernel)
example (s' : Std Ext) (h : stdRun stdScriptBody 10 (demoStd (.fin 2)) = some (2, s')) :=
  rerun_after_cap_iterates stdScriptBody stdScriptBody stdScriptBody_ok stdScriptBody_ok (demoStd (.fin 2)) s' 10 5 2
    rfl rfl h (by decide +kernel) (by decide)

example := reached_any_all demoIns
/-- the direction of the comparison matters and is the specified one: value 1 against tolerance 2 is met,
value 2 against tolerance 1 is not -/
example : reached ({ demoIns with criterion := [.fin 1], tolerance := [.fin 2] }) = true ∧
    reached ({ demoIns with criterion := [.fin 2], tolerance := [.fin 1] }) = false := by decide +kernel
example := ins_iter_inv insScriptBody_ok demoIns 2
example := ins_stopAt_iff insScriptBody_ok demoIns 3
example (fuel k : Nat) (s' : Ins Ext) := ins_stops_first insScriptBody insScriptBody_ok demoIns fuel k s'
example : ∃ k s', runLoop insWhile insTop insBot insScriptBody 10 demoIns 0 = some (k, s') :=
  ins_terminates insScriptBody insScriptBody_ok demoIns 10
    ⟨3, by decide, Or.inl ⟨(reached_any_all (iter insScriptBody 3 demoIns)).mp (by decide +kernel), by decide⟩⟩
example := ins_default_iterations insScriptBody
  ({ demoIns with minIteration := cfgMinIteration none, maxIteration := cfgMaxIteration none }) 3 rfl rfl (by decide)
example (s' : Ins Ext) (h : insRun insScriptBody 10 demoIns = some (3, s')) :=
  ins_finalise_consumes_once insScriptBody insScriptBody_ok demoIns 10 3 s' rfl h
example (s' : Ins Ext) (h : insRun insScriptBody 10 demoIns = some (3, s')) :=
  ins_rerun_idempotent insScriptBody insScriptBody 10 5 3 demoIns s' insScriptBody_ok rfl h

example := resolved_in_user_order ["fractional_error", "log_evidence", "ratio_all"] (by decide +kernel)
example := unknown_rejected "no_such_criterion" (by decide +kernel) 1 "any"
example := (configure_errors ["no_such_criterion", "Ratio"] 2 "any").1 (by decide +kernel)
example := (configure_errors ["ess", "ratio"] 3 "any").2.1 (by decide +kernel) (by decide +kernel)
example : (configureStopping ["log_evidence", "ratio_all"] 2 "all").toOption = some (["log_dZ", "ratio"], false) := by
  decide +kernel

example : essCode [(1 : Rat), 2, 3] = essKish [(1 : Rat), 2, 3] := ess_def [(1 : Rat), 2, 3] (by decide +kernel)
example := Z_err_def [(1 : Rat), 2, 3] (by decide)
example := ratio_def [(2 : Rat), 3] [1, 2, 3] [3] [1, 2]
example := ratio_log [2, 3] [1, 2, 3] (by norm_num [evidence, sumK]) (by norm_num [evidence, sumK])
example := log_dZ_def 2 3 1 (by norm_num) (by norm_num)
example := Z_err_log [1, 2, 3] (by norm_num [evidence, sumK])
example : essCode [(1 : Rat), 2, 3] = 18 / 7 ∧ essKish [(1 : Rat), 2, 3] = 18 / 7 ∧
    errSq [(1 : Rat), 2, 3] = 1 / 3 ∧ relErrSq [(1 : Rat), 2, 3] = 1 / 12 := by
  decide +kernel

end NessaiVerif.C15
