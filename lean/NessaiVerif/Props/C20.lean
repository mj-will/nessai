import NessaiVerif.Model.Term
import NessaiVerif.Gen.Term
import NessaiVerif.Proofs.Term
/-
C20 — every algorithmic option runs to completion or is rejected up front.   PARTIAL.

What is proved here
  (1) termination / boundedness of the loops a run depends on, on models of the real loops
      (Model/Term.lean), each under the progress hypothesis that the real code relies on, together
      with the counter-example showing that the hypothesis is needed (the loop has no other guard);
  (2) interface conformance of the post-sampling paths: in the tables generated from the nessai
      sources (Gen/Term.lean) every keyword passed at a call site is accepted by the callee and every
      attribute read is defined in the class hierarchy — EXCEPT the sites listed in
      `knownKwExceptions` / `knownAttrExceptions`, which are proved to be exactly the violations
      (a new non-conforming site, or the repair of a listed one, breaks the theorem).
  (3) where option values are validated: in the table of `raise` statements guarded by an option
      (generated from the sources, classified "upfront" = reachable from the constructors / before the
      live points are drawn, "late" = reachable only once sampling has started) the options tested late
      are exactly `knownLateOptions`.
What is NOT proved:
  * the property's first half as such — "an unacceptable configuration is rejected BEFORE sampling
    starts": (3) only locates the explicit `raise` statements that mention an option; that every bad
    value is caught by one of the up-front sites (rather than by an exception deep inside sampling) is
    checked by the sweep only (invalid-choice runs), not proved;
  * that a complete run with any option (pair) terminates and returns valid results — that is an
    integration sweep on the real code (harness/c20_sweep.py), evidence and failing-input search.
-/
namespace NessaiVerif.C20
open NessaiVerif.Term

/-- A batch that is Good (non-empty after the `log_q` truncation, finite maximum log-weight) makes the loop
body accept at least one point — the point attaining the maximum, since `0 > log u` for every `u ∈ [0,1)`. -/
theorem populate_good_batch_progress (N : Nat) (m : Option EF) (u : Nat → Nat → LU) (st : StdState) (b : Batch)
    (hg : isGood m b = true) : st.nAcc + 1 ≤ (stdStep N m u st b).nAcc := by
  rw [stdStep_nAcc_eq]
  exact Nat.add_le_add_left (batchAcc_pos u st.calls hg) _

example : 0 + 1 ≤ (stdStep 3 none (fun _ _ => .half 0) {} ⟨2, [⟨1, .fin 0, .fin (-7)⟩, ⟨2, .fin 0, .ninf⟩]⟩).nAcc :=
  populate_good_batch_progress 3 none _ {} _ (by decide)

/-- …and a batch that is NOT Good accepts nothing at all: nothing survives the truncation, or ONE weight is NaN
(then `log_w.max()` is NaN), or the maximum is +∞ (`inf - inf` is NaN, `finite - inf` is −∞) or −∞. -/
theorem populate_not_good_no_progress (N : Nat) (m : Option EF) (u : Nat → Nat → LU) (st : StdState) (b : Batch)
    (hg : isGood m b = false) : (stdStep N m u st b).nAcc = st.nAcc := by
  rw [stdStep_nAcc_eq, batchAcc_zero u st.calls hg]; rfl

/-- one NaN among finite weights, and a +∞ maximum: nothing accepted -/
example : (stdStep 3 none (fun _ _ => .ninf) {} ⟨3, [⟨1, .fin 0, .fin 5⟩, ⟨2, .fin 0, .nan⟩, ⟨3, .fin 0, .fin 1⟩]⟩).nAcc = 0 :=
  populate_not_good_no_progress 3 none _ {} _ (by decide)
example : (stdStep 3 none (fun _ _ => .ninf) {} ⟨2, [⟨1, .fin 0, .pinf⟩, ⟨2, .fin 0, .fin 1⟩]⟩).nAcc = 0 :=
  populate_not_good_no_progress 3 none _ {} _ (by decide)

/-- **Exact termination criterion** of the rejection-sampling branch (`accumulate_weights=False`), for ANY stream
of batches: the `while n_accepted < N` loop has ended within the stream iff the batches accept at least `N`
points in total (`stdAccepted`: the sum of the per-batch acceptance counts; only Good batches contribute). -/
theorem populate_terminates_iff (N : Nat) (m : Option EF) (u : Nat → Nat → LU) (bs : List Batch) :
    (populateStd N m u bs {}).isDone = true ↔ N ≤ stdAccepted m u bs 0 := by
  rw [populateStd_eq_run]
  simpa using run_isDone_iff (exit := (N ≤ ·.nAcc)) (step := stdStep N m u)
    (fun s bs => N ≤ s.nAcc + stdAccepted m u bs s.calls) (fun s => by simp [stdAccepted])
    (fun s b bs => by simp only [stdAccepted, stdStep_nAcc_eq, stdStep_calls_eq]; omega) bs {}

example : (populateStd 2 none (fun _ _ => .half 0) [⟨1, [⟨1, .fin 0, .nan⟩]⟩, ⟨1, [⟨2, .fin 0, .fin 0⟩]⟩, ⟨1, [⟨3, .fin 0, .fin 4⟩]⟩] {}).isDone = true :=
  (populate_terminates_iff 2 none _ _).mpr (by decide)

/-- only Good batches contribute, and each contributes at least one point -/
theorem populate_accepted_bounds (m : Option EF) (u : Nat → Nat → LU) (bs : List Batch) :
    bs.countP (isGood m) ≤ stdAccepted m u bs 0 ∧
    ((∀ b ∈ bs, isGood m b = false) → stdAccepted m u bs 0 = 0) :=
  ⟨countGood_le_stdAccepted m u bs 0, stdAccepted_zero m u bs 0⟩

example : stdAccepted none (fun _ _ => .ninf) [⟨1, [⟨1, .fin 0, .nan⟩]⟩, ⟨1, [⟨2, .fin 0, .pinf⟩]⟩] 0 = 0 :=
  (populate_accepted_bounds none _ _).2 (by decide)

/-- Sufficient form (partial: it needs the progress hypothesis): if the stream contains at least `N` Good
batches — in any position, interleaved with any other batches — the loop ends; if ALL batches are Good it ends
within `N` batches, with a pool of exactly `N` points. -/
theorem populate_terminates_partial (N : Nat) (m : Option EF) (u : Nat → Nat → LU) (bs : List Batch)
    (hlen : N ≤ bs.countP (isGood m)) :
    (populateStd N m u bs {}).isDone = true ∧
    ((∀ b ∈ bs, isGood m b = true) → ∃ s, populateStd N m u bs {} = .done s ∧ s.used ≤ N ∧ s.xs.length = N) := by
  refine ⟨(populate_terminates_iff N m u bs).mpr (Nat.le_trans hlen (countGood_le_stdAccepted m u bs 0)), ?_⟩
  intro hall
  rw [populateStd_eq_run]
  -- every batch lowers `N - nAcc`; the pool holds the accepted points, cut at `N`
  obtain ⟨t, ht, hl, he, hu⟩ := run_done (exit := (N ≤ ·.nAcc)) (step := stdStep N m u) (bs := bs) (s := {})
    (fun s => s.xs.length = min s.nAcc N) (N - ·.nAcc) (·.used) (stdStep_used N m u)
    (fun b hb s hl he => ⟨stdStep_len (Nat.lt_of_not_le he) hl,
      Nat.sub_lt_sub_left (Nat.lt_of_not_le he) (populate_good_batch_progress N m u s b (hall b hb))⟩)
    (fun s _ h => Nat.le_of_sub_eq_zero h) (by simp) (Nat.le_trans hlen List.countP_le_length)
  exact ⟨t, ht, by simpa using hu, hl.trans (Nat.min_eq_right he)⟩

example : (populateStd 2 (some (.fin 0)) (fun _ _ => .half 1)
    [⟨3, [⟨1, .fin 1, .fin (-2)⟩, ⟨2, .fin 0, .fin 5⟩, ⟨3, .fin 2, .fin 0⟩]⟩, ⟨3, [⟨4, .fin 1, .nan⟩]⟩,
     ⟨3, [⟨6, .fin 1, .fin 1⟩]⟩] {}).isDone = true :=
  (populate_terminates_partial 2 (some (.fin 0)) _ _ (by decide)).1

example : (match populateStd 2 (some (.fin 0)) (fun _ _ => .half 1)
    [⟨3, [⟨1, .fin 1, .fin (-2)⟩, ⟨2, .fin 0, .fin 5⟩, ⟨3, .fin 2, .fin 0⟩]⟩, ⟨3, [⟨4, .fin 1, .fin (-5)⟩, ⟨5, .fin 1, .fin 0⟩]⟩,
     ⟨3, [⟨6, .fin 1, .fin 1⟩]⟩] {} with | .done s => some (s.xs, s.used) | .spin _ => none) = some ([3, 5], 2) := by
  decide +kernel

/-- The excluded case, in full: the loop has NO guard in this branch.  If NO batch of the stream is Good
the loop is still spinning after any number of batches, with nothing accepted. -/
theorem populate_can_spin (N : Nat) (hN : 1 ≤ N) (m : Option EF) (u : Nat → Nat → LU) (bs : List Batch)
    (hs : ∀ b ∈ bs, isGood m b = false) : (populateStd N m u bs {}).isDone = false := by
  obtain ⟨s, h, _⟩ := populateStd_spin_of_not_good N m u bs {} hs hN
  rw [h]; rfl

/-- a stream mixing the three kinds of useless batch: a single NaN weight, a +∞ maximum, truncated to nothing -/
example : (populateStd 1 (some (.fin 0)) (fun _ _ => .ninf)
    [⟨2, [⟨1, .fin 1, .fin 3⟩, ⟨2, .fin 1, .nan⟩]⟩, ⟨2, [⟨3, .fin 1, .pinf⟩, ⟨4, .fin 1, .fin 0⟩]⟩, ⟨2, [⟨5, .fin 0, .fin 0⟩]⟩] {}).isDone = false :=
  populate_can_spin 1 (by decide) _ _ _ (by decide)

/-- the progress hypothesis of `populate_terminates_partial` cannot be dropped: three all-NaN batches, still spinning -/
theorem populate_terminates_fails_without :
    (match populateStd 1 none (fun _ _ => .ninf) (List.replicate 3 ⟨2, [⟨1, .fin 0, .nan⟩, ⟨2, .fin 0, .nan⟩]⟩) {} with
      | .done _ => none | .spin s => some (s.used, s.nAcc)) = some (3, 0) := by decide +kernel

/-- `FlowProposal.populate`, `accumulate_weights=True`: whatever the weights are (NaN included), if every
batch proposes at least one point and at least one survives the truncation, the `max_samples` guard ends
the loop after at most `max_samples + 1` batches; the pool holds at most `N` points (possibly fewer). -/
theorem populate_accumulate_bounded_partial (N maxS : Nat) (m : Option EF) (u : Nat → Nat → LU) (bs : List Batch)
    (hg : ∀ b ∈ bs, NonEmpty m b) (hlen : maxS + 1 ≤ bs.length) :
    ∃ r, populateAcc N m maxS u bs {} = .done r ∧ r.used ≤ maxS + 1 ∧ r.xs.length ≤ N := by
  obtain ⟨r, h, h1, h2⟩ := populateAcc_done N m maxS u bs {} hg (by simpa using hlen) (by simp)
  exact ⟨r, h, by simpa using h1, h2⟩

example : ∃ r, populateAcc 2 none 1 (fun _ _ => .half 1)
    [⟨3, [⟨1, .fin 0, .nan⟩]⟩, ⟨3, [⟨2, .fin 0, .nan⟩]⟩] {} = .done r ∧ r.used ≤ 1 + 1 ∧ r.xs.length ≤ 2 :=
  populate_accumulate_bounded_partial 2 1 none _ _ (by decide) (by decide)

example : (match populateAcc 2 none 5 (fun _ _ => .half 1)
    [⟨3, [⟨1, .fin 0, .fin 0⟩]⟩, ⟨3, [⟨2, .fin 0, .fin 0⟩, ⟨3, .fin 0, .fin (-1)⟩]⟩] {} with
      | .done r => some r.xs | .spin _ => none) = some [1, 2] := by decide +kernel

/-- …but the `continue` for an empty batch sits BEFORE the `max_samples` test: if the truncation discards
every point of every batch the accumulate branch spins as well, `max_samples` notwithstanding. -/
theorem populate_accumulate_can_spin (N maxS : Nat) (hN : 1 ≤ N) (m : Option EF) (u : Nat → Nat → LU) (bs : List Batch)
    (he : ∀ b ∈ bs, b.items.filter (keep m) = []) :
    ∃ r, populateAcc N m maxS u bs {} = .spin r ∧ r.used = bs.length := by
  obtain ⟨r, h, h1⟩ := populateAcc_spin N m maxS u bs {} he hN
  exact ⟨r, h, by simpa using h1⟩

example : ∃ r, populateAcc 1 (some (.fin 5)) 0 (fun _ _ => .half 0) (List.replicate 4 ⟨10, [⟨1, .fin 0, .fin 0⟩]⟩) {} = .spin r ∧ r.used = 4 :=
  populate_accumulate_can_spin 1 0 (by decide) (some (.fin 5)) _ _ (by decide)

example : (match populateAcc 1 (some (.fin 5)) 0 (fun _ _ => .half 0) (List.replicate 4 ⟨10, [⟨1, .fin 0, .fin 0⟩]⟩) {} with
      | .done _ => none | .spin r => some r.nProp) = some 40 := by decide +kernel

/-- **Exact termination criterion** of `ImportanceFlowProposal.draw(n)` (n ≥ 1), for ANY stream of batches:
the loop body accepts exactly the points that pass both masks, so `while n_accepted < n` has ended within the
stream iff the stream contains at least `n` such points in total (`okTotal`).  `hn` is not needed: for `n = 0` both
sides hold (`ins_draw_zero`). -/
theorem ins_draw_terminates_iff (n : Nat) (hn : 1 ≤ n) (bs : List (List (Nat × PK))) :
    (insDraw n bs).isDone = true ↔ n ≤ okTotal bs :=
  insDraw_isDone_iff n bs

example : (insDraw 3 [[(1, .rej1), (2, .ok)], [(3, .rej2), (4, .rej1)], [(5, .ok), (6, .ok)]]).isDone = true :=
  (ins_draw_terminates_iff 3 (by decide) _).mpr (by decide)
example : (insDraw 3 [[(1, .rej1), (2, .ok)], [(3, .rej2), (4, .rej1)], [(5, .ok), (6, .rej2)]]).isDone = false :=
  Bool.eq_false_iff.mpr (mt (ins_draw_terminates_iff 3 (by decide) _).mp (by decide))

/-- Sufficient form (partial: it needs the progress hypothesis): if every batch contains at least one point that
passes both masks, the loop ends after at most `n` batches and returns exactly `n` points. -/
theorem ins_draw_terminates_partial (n : Nat) (bs : List (List (Nat × PK))) (hg : ∀ b ∈ bs, HasOk b)
    (hlen : n ≤ bs.length) : ∃ xs used, insDraw n bs = .done (xs, used) ∧ used ≤ n ∧ xs.length = n := by
  -- every batch lowers `n - nAcc`; `xs` holds the accepted points
  obtain ⟨t, ht, hl, he, hu⟩ := run_done (exit := (n ≤ ·.nAcc)) (step := insStep) (bs := bs) (s := {})
    (fun s => s.xs.length = s.nAcc) (n - ·.nAcc) (·.used) insStep_used
    (fun b hb s hl he => ⟨insStep_len hl, Nat.sub_lt_sub_left (Nat.lt_of_not_le he)
      (by rw [insStep_nAcc_eq]; exact Nat.lt_add_of_pos_right (okCount_pos (hg b hb)))⟩)
    (fun s _ h => Nat.le_of_sub_eq_zero h) rfl (by simpa using hlen)
  exact ⟨t.xs.take n, t.used, by rw [insDraw, insLoop_eq_run, ht], by simpa using hu,
    by rw [List.length_take, hl]; exact Nat.min_eq_left he⟩

example : ∃ xs used, insDraw 2 [[(1, .rej1), (2, .ok)], [(3, .ok), (4, .rej1)], [(5, .ok), (6, .ok)]] = .done (xs, used)
    ∧ used ≤ 2 ∧ xs.length = 2 :=
  ins_draw_terminates_partial 2 _ (by decide) (by decide)

example : insDraw 2 [[(1, .rej1), (2, .ok)], [(3, .rej2), (4, .rej1)], [(5, .ok), (6, .ok)]] = .done ([2, 5], 3) := by
  decide +kernel

/-- `draw(0)`: `n_draw = int(1.01·0) = 0`, the loop is not entered and nothing is drawn. -/
theorem ins_draw_zero (bs : List (List (Nat × PK))) : insDraw 0 bs = .done ([], 0) := by
  cases bs <;> simp [insDraw, insLoop]

/-- The excluded case: no iteration limit exists; if no point of any batch passes both masks, the loop
is still running after any number of batches. -/
theorem ins_draw_can_spin (n : Nat) (hn : 1 ≤ n) (bs : List (List (Nat × PK))) (hb : ∀ b ∈ bs, NoOk b) :
    ∃ xs, insDraw n bs = .spin (xs, bs.length) := by
  obtain ⟨t, ht, _, hu⟩ := run_spin (exit := (n ≤ ·.nAcc)) (step := insStep) (bs := bs) (s := {})
    (·.nAcc = 0) (·.used) insStep_used
    (fun b hb' s h => by rw [insStep_nAcc_eq, okCount_eq_zero (hb b hb'), h]) (fun s h => by omega) rfl
  exact ⟨t.xs.take n, by simp [insDraw, insLoop_eq_run, ht, hu]⟩

example : ∃ xs, insDraw 2 [[(1, .rej1), (2, .rej2)], [(3, .rej2)], []] = .spin (xs, 3) :=
  ins_draw_can_spin 2 (by decide) _ (by decide)

/-- the hypothesis of `ins_draw_terminates_partial` cannot be dropped -/
theorem ins_draw_terminates_fails_without :
    insDraw 1 (List.replicate 5 [(1, .rej1), (2, .rej2)]) = .spin ([], 5) := by decide +kernel

/-- `check_batch_size` always terminates: the `while True` loop decreases the batch size and raises at
`batch_size < 2`, so the model's fuel (`batch_size + 1` iterations) is never exhausted — for every length,
batch size (negative ones included) and fraction. -/
theorem check_batch_size_terminates (len : Nat) (b : Int) (num den : Nat) :
    checkBatchSize len b num den ≠ .error .fuel := by
  fun_cases checkBatchSize len b num den with
  -- the loop is entered, with fuel `b.toNat + 1`
  | case3 => exact cbsLoop_no_fuel (by omega) (by omega)
  -- `ValueError`, `ZeroDivisionError`, or `b` returned as it is
  | _ => simp

/-- post-condition: a returned batch size is either the requested one (already acceptable) or a smaller
one, at least 2, whose final batch is empty, or has at least `min_batch_size` points, or (once at/below
`min_batch_size`) more than one point. -/
theorem check_batch_size_post (len : Nat) (b r : Int) (num den : Nat)
    (h : checkBatchSize len b num den = .ok r) :
    (r = b ∧ ¬ (Int.fmod len b ≠ 0 ∧ Int.fmod len b < minBatch num den b)) ∨
    (2 ≤ r ∧ r < b ∧ (Int.fmod len r = 0 ∨ minBatch num den b ≤ Int.fmod len r ∨
      (r ≤ minBatch num den b ∧ 1 < Int.fmod len r))) := by
  revert h
  fun_cases checkBatchSize len b num den with
  -- `ValueError` (`b = 1`), `ZeroDivisionError` (`b = 0`)
  | case1 | case2 => exact nofun
  -- the loop is entered
  | case3 => exact fun h => .inr (cbsLoop_post h)
  -- `b` is returned as it is
  | case4 _ _ _ _ hc => exact fun h => .inl ⟨(Except.ok.inj h).symm, hc⟩

/-- the guarantee the training loop relies on (batch normalisation needs two samples): an accepted batch size never
leaves a final batch of exactly one sample — for every length, requested batch size and fraction.  (False before the
`fix:` of F57: `check_batch_size(21 samples, 10)` returned 10, final batch 1, and the importance sampler's flow
collapsed so that `ImportanceFlowProposal.draw` never returned.) -/
theorem check_batch_size_final_ne_one (len : Nat) (b r : Int) (num den : Nat)
    (h : checkBatchSize len b num den = .ok r) : Int.fmod len r ≠ 1 := by
  have hm : (2 : Int) ≤ minBatch num den b := by unfold minBatch; omega
  rcases check_batch_size_post len b r num den h with ⟨rfl, hc⟩ | ⟨_, _, h0 | h1 | h2⟩ <;> omega

example : (checkBatchSize 21 10 1 10).toOption = some 9 ∧ Int.fmod (21 : Nat) 9 = 3 := by decide +kernel

/-- applied: batch size 1000 on 1005 points is lowered to 905 (final batch of exactly min_batch_size = 100 points) -/
example :
    ((905 : Int) = 1000 ∧ ¬ (Int.fmod (1005 : Nat) 1000 ≠ 0 ∧ Int.fmod (1005 : Nat) 1000 < minBatch 1 10 1000)) ∨
    ((2 : Int) ≤ 905 ∧ (905 : Int) < 1000 ∧ (Int.fmod (1005 : Nat) 905 = 0 ∨ minBatch 1 10 1000 ≤ Int.fmod (1005 : Nat) 905 ∨
      ((905 : Int) ≤ minBatch 1 10 1000 ∧ 1 < Int.fmod (1005 : Nat) 905))) :=
  check_batch_size_post 1005 1000 905 1 10 (ok_of_toOption (by decide +kernel))

example : (checkBatchSize 1005 1000 1 10).toOption = some 905 ∧ (checkBatchSize 1005 100 1 10).toOption = some 99 ∧
    (checkBatchSize 7 1 1 10).toOption = none ∧ (checkBatchSize 3 2 1 1).toOption = none := by decide +kernel

/-- batch-size halving of `draw_final_samples` terminates (the fuel `batch_size + 1` is never exhausted) -/
theorem batch_halving_terminates (b : Nat) (mx : Int) : halve b mx ≠ some none :=
  halveLoop_no_fuel (by omega)

/-- …its post-condition: the batch size returned does not exceed `max_batch_size` (nor the initial one);
the RuntimeError is raised only for `max_batch_size < 1`, i.e. for `max_batch_size ≥ 1` a batch size is found. -/
theorem batch_halving_post (b : Nat) (mx : Int) :
    (∀ r, halve b mx = some (some r) → (r : Int) ≤ mx ∧ r ≤ b) ∧ (halve b mx = none → mx < 1) ∧
    (1 ≤ mx → ∃ r, halve b mx = some (some r)) := by
  refine ⟨fun r => halveLoop_post, halveLoop_err, fun h1 => ?_⟩
  match hh : halve b mx with
  | none => have := halveLoop_err hh; omega
  | some none => exact absurd hh (batch_halving_terminates b mx)
  | some (some r) => exact ⟨r, rfl⟩

example : ∃ r, halve 105000 20000 = some (some r) := (batch_halving_post 105000 20000).2.2 (by decide)
example : ((13125 : Nat) : Int) ≤ 20000 ∧ 13125 ≤ 105000 := (batch_halving_post 105000 20000).1 13125 (by decide +kernel)

example : halve (finalBatch0 100000) 20000 = some (some 13125) ∧ halve 5 0 = none ∧ halve 0 0 = some (some 0) := by
  decide +kernel

/-- the redraw loop of `draw_final_samples` performs at most `max_its` iterations, whatever the flows
return and whatever the ESS does (for `max_its ≤ 0` it performs none).  As the code stands the loop is not reached: before it
`draw_final_samples` reads `self.proposal.unnormalised_weights` (or `self.imp_post`), defined nowhere — see
`knownAttrExceptions` below; `harness/c20_loops.py` supplies the attribute to run it. -/
theorem draw_final_bounded (cfg : FinalCfg) (s : List (Nat × Nat)) (hlen : cfg.maxIts.toNat ≤ s.length) :
    (finalLoop cfg s {}).1 ≠ .fuel ∧ (finalLoop cfg s {}).2.it ≤ cfg.maxIts.toNat := by
  have := finalLoop_bounded cfg s {} (by simpa using hlen)
  exact ⟨this.1, by have := this.2; simp at this; omega⟩

example : (finalLoop ⟨some 10, 50, 3, some 100⟩ [(20, 7), (20, 15), (20, 19), (20, 40)] {}).1 ≠ .fuel ∧
    (finalLoop ⟨some 10, 50, 3, some 100⟩ [(20, 7), (20, 15), (20, 19), (20, 40)] {}).2.it ≤ (3 : Int).toNat :=
  draw_final_bounded ⟨some 10, 50, 3, some 100⟩ _ (by decide)

example : finalLoop ⟨some 10, 50, 3, some 100⟩ [(20, 7), (20, 15), (20, 19), (20, 40)] {} =
    (.maxIts, { it := 3, size := 60, ess2 := 19 }) := by decide +kernel

/-- `NestedSampler.populate_live_points`: a drawn point is stored iff its log-prior and its (possibly
re-evaluated) log-likelihood are finite — the nested guards of `yield_sample`/`populate_live_points`
amount to exactly that. -/
theorem ns_live_stored_iff (c : Cand) : candStored c = (c.logP.isFinite && (candL c).isFinite) := by
  unfold candStored
  cases c.logP <;> cases candL c <;> rfl

/-- **Exact termination criterion** of `NestedSampler.populate_live_points`, for ANY stream of proposal draws:
it has ended within the stream iff the stream contains at least `nlive` points that get stored. -/
theorem ns_live_terminates_iff (nlive : Nat) (cs : List Cand) :
    (nsLive nlive cs {}).isDone = true ↔ nlive ≤ cs.countP candStored := by
  rw [nsLive_eq_run]
  simpa using run_isDone_iff (exit := (nlive ≤ ·.i)) (step := nsStep)
    (fun s cs => nlive ≤ s.i + cs.countP candStored) (fun s => by simp)
    (fun s c cs => by simp only [List.countP_cons, nsStep_i]; omega) cs {}

example : (nsLive 1 [⟨1, .fin 0, .nan, .fin 1, true⟩, ⟨2, .pinf, .fin 1, .fin 1, true⟩, ⟨3, .fin 0, .fin 0, .fin 2, true⟩] {}).isDone = true :=
  (ns_live_terminates_iff 1 _).mpr (by decide)

/-- …so it has ended once `nlive` such points have been drawn, with exactly `nlive` live points. -/
theorem ns_live_terminates_partial (nlive : Nat) (cs : List Cand) (h : nlive ≤ cs.countP candStored) :
    ∃ s, nsLive nlive cs {} = .done s ∧ s.ids.length = nlive ∧ s.draws ≤ cs.length := by
  have hd := (ns_live_terminates_iff nlive cs).mpr h
  rw [nsLive_eq_run] at hd ⊢
  -- `ids` holds the stored points, and a point is stored only while fewer than `nlive` are
  rcases run_inv (exit := (nlive ≤ ·.i)) (step := nsStep) (bs := cs) (s := {})
      (fun s => s.ids.length = s.i ∧ s.i ≤ nlive) (·.draws) nsStep_draws
      (fun c _ s hI he => ⟨nsStep_ids hI.1, by rw [nsStep_i]; split <;> omega⟩) ⟨rfl, Nat.zero_le _⟩ with
    ⟨t, ht, hI, he, hc⟩ | ⟨t, ht, _⟩
  · exact ⟨t, ht, hI.1.trans (Nat.le_antisymm hI.2 he), by simpa using hc⟩
  · rw [ht] at hd; cases hd

example : ∃ s, nsLive 2 [⟨1, .fin 0, .nan, .fin 1, true⟩, ⟨2, .fin 0, .fin 0, .fin (-3), true⟩, ⟨3, .ninf, .fin 1, .fin 1, false⟩,
    ⟨4, .fin (-1), .fin (-2), .nan, true⟩] {} = .done s ∧ s.ids.length = 2 ∧ s.draws ≤ 4 :=
  ns_live_terminates_partial 2 _ (by decide)

example : (match nsLive 2 [⟨1, .fin 0, .nan, .fin 1, true⟩, ⟨2, .fin 0, .fin 0, .fin (-3), true⟩, ⟨3, .ninf, .fin 1, .fin 1, false⟩,
    ⟨4, .fin (-1), .fin (-2), .nan, true⟩] {} with | .done s => some (s.ids, s.draws) | .spin _ => none) = some ([2, 4], 4) := by
  decide +kernel

/-- The excluded case: there is no limit on the number of draws; a proposal (or likelihood) that never
yields a finite point keeps `populate_live_points` running for ever. -/
theorem ns_live_can_spin (nlive : Nat) (hn : 1 ≤ nlive) (cs : List Cand) (h : ∀ c ∈ cs, candStored c = false) :
    ∃ s, nsLive nlive cs {} = .spin s ∧ s.draws = cs.length := by
  rw [nsLive_eq_run]
  obtain ⟨t, ht, _, hc⟩ := run_spin (exit := (nlive ≤ ·.i)) (step := nsStep) (bs := cs) (s := {})
    (·.i = 0) (·.draws) nsStep_draws
    (fun c hc s hs => by rw [nsStep_i, h c hc, hs]; rfl) (fun s hs => by omega) rfl
  exact ⟨t, ht, by simpa using hc⟩

example : ∃ s, nsLive 1 [⟨1, .fin 0, .nan, .fin 1, true⟩, ⟨2, .ninf, .fin 1, .fin 1, false⟩, ⟨3, .fin 0, .fin 0, .pinf, true⟩] {} = .spin s
    ∧ s.draws = 3 := ns_live_can_spin 1 (by decide) _ (by decide)

/-- **Exact termination criterion** of `ImportanceNestedSampler.populate_live_points`, for ANY stream of prior
batches: it has ended within the stream iff the batches contain at least `target` finite-prior points in total. -/
theorem ins_live_terminates_iff (target : Nat) (bs : List (List (Nat × Bool))) :
    (insLive target bs {}).isDone = true ↔ target ≤ finiteTotal bs := by
  rw [insLive_eq_run]
  simpa using run_isDone_iff (exit := (target ≤ ·.n)) (step := insLiveStep target)
    (fun s bs => target ≤ s.n + finiteTotal bs) (fun s => by simp [finiteTotal])
    (fun s b bs => by simp only [finiteTotal, insLiveStep_n]; omega) bs {}

example : (insLive 3 [[(1, true), (2, false)], [], [(3, true), (4, true)]] {}).isDone = true :=
  (ins_live_terminates_iff 3 _).mpr (by decide)

/-- Sufficient form: if every batch of prior draws contains a point with a finite log-prior, the
`while n < target` loop ends after at most `target` batches with `target` points. -/
theorem ins_live_terminates_partial (target : Nat) (bs : List (List (Nat × Bool))) (hg : ∀ b ∈ bs, HasFinite b)
    (hlen : target ≤ bs.length) :
    ∃ s, insLive target bs {} = .done s ∧ s.ids.length = target ∧ s.used ≤ target := by
  rw [insLive_eq_run]
  -- every batch lowers `target - n`; `ids` holds the `n` points taken so far, never more than `target`
  obtain ⟨t, ht, ⟨hl, hn⟩, he, hu⟩ := run_done (exit := (target ≤ ·.n)) (step := insLiveStep target)
    (bs := bs) (s := {}) (fun s => s.ids.length = s.n ∧ s.n ≤ target) (target - ·.n) (·.used) (fun _ _ => rfl)
    (fun b hb s ⟨hl, hn⟩ he => by
      obtain ⟨p, hp, hf⟩ := hg b hb
      have : 0 < (b.filter (·.2)).length := List.length_pos_of_mem (List.mem_filter.mpr ⟨hp, hf⟩)
      refine ⟨⟨insLiveStep_ids hl, ?_⟩, ?_⟩ <;> rw [insLiveStep_n] <;> omega)
    (fun s _ h => Nat.le_of_sub_eq_zero h) ⟨rfl, Nat.zero_le _⟩ hlen
  exact ⟨t, ht, hl.trans (Nat.le_antisymm hn he), by simpa using hu⟩

example : ∃ s, insLive 2 [[(1, true), (2, false), (3, true)], [(4, true), (5, true), (6, true)]] {} = .done s ∧
    s.ids.length = 2 ∧ s.used ≤ 2 := ins_live_terminates_partial 2 _ (by decide) (by decide)

example : (match insLive 3 [[(1, true), (2, false), (3, true)], [(4, true), (5, true), (6, true)]] {} with
    | .done s => some (s.ids, s.used) | .spin _ => none) = some ([1, 3, 4], 2) := by decide +kernel

/-- The excluded case: a prior that is never finite on the unit hypercube keeps it running for ever. -/
theorem ins_live_can_spin (target : Nat) (ht : 1 ≤ target) (bs : List (List (Nat × Bool)))
    (hb : ∀ b ∈ bs, ∀ p ∈ b, p.2 = false) : ∃ s, insLive target bs {} = .spin s ∧ s.used = bs.length := by
  rw [insLive_eq_run]
  obtain ⟨t, ht, _, hu⟩ := run_spin (exit := (target ≤ ·.n)) (step := insLiveStep target) (bs := bs) (s := {})
    (·.n = 0) (·.used) (fun _ _ => rfl)
    (fun b hb' s h => by
      have : b.filter (·.2) = [] := List.filter_eq_nil_iff.mpr fun p hp => by simp [hb b hb' p hp]
      simp [insLiveStep_n, this, h])
    (fun s h => by omega) rfl
  exact ⟨t, ht, by simpa using hu⟩

example : ∃ s, insLive 2 [[(1, false), (2, false)], [(3, false)]] {} = .spin s ∧ s.used = 2 :=
  ins_live_can_spin 2 (by decide) _ (by decide)

/-- KNOWN non-conforming call sites (caller, callee, keyword), each a genuine defect of the pinned tree:
  * `train_final_flow=True`: `FlowModel(config=…)` — no such keyword (TypeError after the last iteration)
      finding `ImportanceNestedSampler.train_final_flow:TypeError-after-sampling`; the same method then calls
      `_INSIntegralState(normalised=False)`, which takes no argument;
  * `bootstrap=True`: `proposal.draw(…, update_counts=False)`
      finding `ImportanceNestedSampler.bootstrap:AttributeError-after-sampling`. -/
def knownKwExceptions : List (String × String × String) := [
  ("ImportanceNestedSampler.train_final_flow", "FlowModel", "config"),
  ("ImportanceNestedSampler.train_final_flow", "_INSIntegralState", "normalised"),
  ("ImportanceNestedSampler.adjust_final_samples", "ImportanceFlowProposal.draw", "update_counts")]

/-- KNOWN reads of attributes that are defined nowhere (caller, class, attribute):
  * `bootstrap=True`: `self.proposal.n_requested`   (finding `…bootstrap:AttributeError-after-sampling`)
  * `redraw_samples=True, optimise_weights=True`: `self.imp_post`, then `self._log_q_ns`
      (finding `ImportanceNestedSampler.draw_final_samples:optimise_weights-undefined-attribute`)
  * `redraw_samples=True` (every value of the other options): `self.proposal.unnormalised_weights`, and with
      `use_counts=True` also `self.proposal.normalisation_constant`
      (finding `ImportanceNestedSampler.draw_final_samples:redraw_samples-undefined-attribute`)
  * `add_level_post_sampling` calls three methods that do not exist (public method, reached by no option)
  * `plot_extra_state=True`: `self.checkpoint_iterations` (a plotting option: the value lives in `self.history`). -/
def knownAttrExceptions : List (String × String × String) := [
  ("ImportanceNestedSampler.adjust_final_samples", "ImportanceFlowProposal", "n_requested"),
  ("ImportanceNestedSampler.draw_final_samples", "ImportanceNestedSampler", "imp_post"),
  ("ImportanceNestedSampler.draw_final_samples", "ImportanceNestedSampler", "_log_q_ns"),
  ("ImportanceNestedSampler.draw_final_samples", "ImportanceFlowProposal", "unnormalised_weights"),
  ("ImportanceNestedSampler.draw_final_samples", "ImportanceFlowProposal", "normalisation_constant"),
  ("ImportanceNestedSampler.add_level_post_sampling", "ImportanceNestedSampler", "update_live_points"),
  ("ImportanceNestedSampler.add_level_post_sampling", "ImportanceNestedSampler", "update_nested_samples"),
  ("ImportanceNestedSampler.add_level_post_sampling", "ImportanceNestedSampler", "add_to_nested_samples"),
  ("ImportanceNestedSampler.plot_extra_state", "ImportanceNestedSampler", "checkpoint_iterations")]

/-- meaning of the violation list, for ANY table: a keyword of a call site that is not reported is accepted
by the callee (it is one of its parameters, or the callee takes `**kwargs`). -/
theorem kw_violations_sound (t : List CallSite) (s : CallSite) (hs : s ∈ t) (k : String) (hk : k ∈ s.kwargs)
    (h : (s.caller, s.callee, k) ∉ kwViolations t) : s.varkw = true ∨ k ∈ s.posParams ∨ k ∈ s.kwonly := by
  -- otherwise `k` is among the unknown keywords that `siteViolations s` reports
  apply Decidable.byContradiction
  intro hc
  simp only [not_or, Bool.not_eq_true] at hc
  refine h (List.mem_flatMap.mpr ⟨s, hs, List.mem_map.mpr ⟨k, ?_, rfl⟩⟩)
  simp only [hc.1, Bool.false_eq_true, if_false]
  exact List.mem_append_left _ (List.mem_append_left _ (List.mem_filter.mpr ⟨hk, by simp [hc.2]⟩))

/-- meaning of the attribute violation list, for ANY table: an attribute read that is not reported is
defined in the class hierarchy of the object it is read from. -/
theorem attr_violations_sound (d : List (String × List String)) (t : List AttrRead) (r : AttrRead) (hr : r ∈ t)
    (h : (r.caller, r.cls, r.attr) ∉ attrViolations d t) : attrDefined d r.cls r.attr = true :=
  Decidable.byContradiction fun hc =>
    h (List.mem_map.mpr ⟨r, List.mem_filter.mpr ⟨hr, by simpa using hc⟩, rfl⟩)

/-- In the tables generated from the current sources the violations of the call-site table are exactly
`knownKwExceptions` (both inclusions, decided by evaluation). -/
theorem kwargs_table_exact :
    (kwViolations Gen.Term.callSites).all (knownKwExceptions.contains ·) = true ∧
    knownKwExceptions.all ((kwViolations Gen.Term.callSites).contains ·) = true := by
  decide +kernel

/-- …and those of the attribute table are exactly `knownAttrExceptions`. -/
theorem attrs_table_exact :
    (attrViolations Gen.Term.definedAttrs Gen.Term.attrReads).all (knownAttrExceptions.contains ·) = true ∧
    knownAttrExceptions.all ((attrViolations Gen.Term.definedAttrs Gen.Term.attrReads).contains ·) = true := by
  -- the form in which the table is cheap to evaluate: see `attrViolations_eq_match`
  rw [attrViolations_eq_match]
  decide +kernel

/-- **Keyword conformance of the post-sampling paths** (partial: up to the listed known defects).  Every
keyword passed at a resolved call site of the methods reachable after sampling is accepted by the callee,
except the listed sites. -/
theorem kwargs_conform_partial (s : CallSite) (hs : s ∈ Gen.Term.callSites) (k : String) (hk : k ∈ s.kwargs)
    (hx : (s.caller, s.callee, k) ∉ knownKwExceptions) : s.varkw = true ∨ k ∈ s.posParams ∨ k ∈ s.kwonly :=
  kw_violations_sound _ s hs k hk fun hm =>
    hx (List.contains_iff_mem.mp (List.all_eq_true.mp kwargs_table_exact.1 _ hm))

/-- **Attribute definedness on the post-sampling paths** (partial: up to the listed known defects).  Every
attribute read on `self` or on an object of known class in those methods is assigned somewhere in the
class hierarchy (or is a method / property / class attribute), except the listed reads. -/
theorem attrs_defined_partial (r : AttrRead) (hr : r ∈ Gen.Term.attrReads)
    (hx : (r.caller, r.cls, r.attr) ∉ knownAttrExceptions) :
    attrDefined Gen.Term.definedAttrs r.cls r.attr = true :=
  attr_violations_sound _ _ r hr fun hm =>
    hx (List.contains_iff_mem.mp (List.all_eq_true.mp attrs_table_exact.1 _ hm))

/-- applied to a concrete table: the keyword `x` of the site is not reported, hence accepted -/
example : (false = true) ∨ "x" ∈ ["a", "x"] ∨ "x" ∈ ([] : List String) :=
  kw_violations_sound [⟨"A.f", "B.g", 1, false, ["x", "bad"], ["a", "x"], [], ["a"], false, false⟩] _
    (List.mem_singleton_self _) "x" (by decide) (by decide)

example : attrDefined [("C", ["a", "b"])] "C" "b" = true :=
  attr_violations_sound [("C", ["a", "b"])] [⟨"C.f", "C", "b"⟩, ⟨"C.f", "C", "zz"⟩] ⟨"C.f", "C", "b"⟩ (by decide) (by decide)

/-- the hypotheses of the two conformance theorems are met by the current tables, and they apply to every row -/
example : (∃ s ∈ Gen.Term.callSites, ∃ k ∈ s.kwargs, (s.caller, s.callee, k) ∉ knownKwExceptions) ∧
    (∃ r ∈ Gen.Term.attrReads, (r.caller, r.cls, r.attr) ∉ knownAttrExceptions) := by
  constructor <;> decide +kernel
example : ∀ s ∈ Gen.Term.callSites, ∀ k ∈ s.kwargs, (s.caller, s.callee, k) ∉ knownKwExceptions →
    (s.varkw = true ∨ k ∈ s.posParams ∨ k ∈ s.kwonly) := fun s hs k hk hx => kwargs_conform_partial s hs k hk hx
example : ∀ r ∈ Gen.Term.attrReads, (r.caller, r.cls, r.attr) ∉ knownAttrExceptions →
    attrDefined Gen.Term.definedAttrs r.cls r.attr = true := fun r hr hx => attrs_defined_partial r hr hx

/-- non-vacuity: the tables are not empty and contain conforming sites with keywords -/
example : 100 ≤ Gen.Term.callSites.length ∧ 300 ≤ Gen.Term.attrReads.length ∧
    (Gen.Term.callSites.filter (fun s => !s.kwargs.isEmpty && (siteViolations s).isEmpty)).length ≥ 20 := by
  decide +kernel

/-- the table check is not vacuous: a site passing an unknown keyword is reported -/
example : kwViolations [⟨"A.f", "B.g", 1, false, ["x", "bad"], ["a", "x"], [], ["a"], false, false⟩] = [("A.f", "B.g", "bad")] := by
  decide +kernel

/-! What follows is NOT the property's first half ("every unacceptable configuration is rejected before sampling
starts"): it only classifies the explicit `raise` statements whose guarding condition mentions an option. -/

/-- Options tested by a `raise` that is reachable ONLY once sampling has started (the sampling loops, the run
methods, and for the importance sampler `proposal.initialise()`, which runs after the live points are drawn):
  * `threshold_method`, `reparameterisation` (importance sampler): unknown values rejected at the first iteration /
      in `proposal.initialise()` — findings `…threshold_method=<unknown>…`, `…reparameterisation=<unknown>…`;
  * `posterior_sampling_method`, `result_extension`: unknown values rejected after sampling has FINISHED
      (`draw_posterior_samples`, `save_results`);
  * `batch_size`: `1` / a non-integer is rejected at the first training (`check_batch_size`, `prep_data`);
  * `n_draw`+`n_posterior_samples`, `optimisation_method`/`optimise_weights`: argument checks inside `draw_final_samples`;
  * `trace_parameters`: unknown parameter names rejected by `plot_trace`;
  * `weighted_kl`, `strict_threshold`, `nlive`: internal consistency checks whose condition happens to mention
      the option (not a validation of its value). -/
def knownLateOptions : List String :=
  ["threshold_method", "reparameterisation", "posterior_sampling_method", "result_extension", "batch_size",
   "n_draw", "n_posterior_samples", "optimisation_method", "optimise_weights", "trace_parameters",
   "weighted_kl", "strict_threshold", "nlive"]

/-- meaning of `lateOptions`, for ANY table: an option tested by a late site is in the list -/
theorem late_options_sound (t : List RaiseSite) (r : RaiseSite) (hr : r ∈ t) (hp : r.phase = "late")
    (o : String) (ho : o ∈ r.options) : o ∈ lateOptions t :=
  List.mem_flatMap.mpr ⟨r, List.mem_filter.mpr ⟨hr, by simp [hp]⟩, ho⟩

example : "b" ∈ lateOptions [⟨"upfront", "A.__init__", "ValueError", ["a"]⟩, ⟨"late", "A.run", "ValueError", ["b", "c"]⟩] :=
  late_options_sound _ ⟨"late", "A.run", "ValueError", ["b", "c"]⟩ (by decide) rfl "b" (by decide)

/-- In the table generated from the current sources, the options tested late are exactly `knownLateOptions`
(both inclusions): a new `raise` on an option in code that runs only after sampling started — or the move of a
listed one to the constructors — breaks this obligation. -/
theorem late_validation_exact :
    (lateOptions Gen.Term.raiseSites).all (knownLateOptions.contains ·) = true ∧
    knownLateOptions.all ((lateOptions Gen.Term.raiseSites).contains ·) = true := by
  decide +kernel

/-- **Validation sites** (partial): every `raise` statement of the table that tests an option outside
`knownLateOptions` is reachable up front (from the constructors of FlowSampler / the samplers / their proposals,
or from `NestedSampler.initialise`, i.e. before the live points are drawn). -/
theorem validation_sites_upfront_partial (r : RaiseSite) (hr : r ∈ Gen.Term.raiseSites)
    (o : String) (ho : o ∈ r.options) (hx : o ∉ knownLateOptions) : r.phase ≠ "late" := fun hp =>
  hx (List.contains_iff_mem.mp
    (List.all_eq_true.mp late_validation_exact.1 _ (late_options_sound _ r hr hp o ho)))

/-- applied: the hypotheses are met by the current table (e.g. `latent_prior`, `stopping_criterion`, `ftype`
are tested by up-front sites only) and the theorem applies to every row -/
example : ∃ r ∈ Gen.Term.raiseSites, ∃ o ∈ r.options, o ∉ knownLateOptions := by decide +kernel
example : ∀ r ∈ Gen.Term.raiseSites, ∀ o ∈ r.options, o ∉ knownLateOptions → r.phase ≠ "late" :=
  fun r hr o ho hx => validation_sites_upfront_partial r hr o ho hx
example : 10 ≤ (Gen.Term.raiseSites.filter (fun r => r.phase != "late")).length := by decide +kernel

end NessaiVerif.C20
