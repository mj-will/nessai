import NessaiVerif.Gen.Threshold
import NessaiVerif.Proofs.Threshold
/-
C17 — INS level thresholds honour min_samples, min_remove and max_samples.

The clamp theorems are about `Gen.Threshold.clampIndex` and `Gen.Threshold.nTrain`, the definitions
that `harness/py2lean.py` regenerates from `nessai/samplers/importancesampler.py` on every run: a
change of the clamp logic in the source changes the definitions and these theorems are re-checked
against it.  `n0` is the method's own choice (`determine_threshold_entropy / _quantile`), `size`
the number of live samples.
-/
namespace NessaiVerif.C17
open NessaiVerif.Threshold NessaiVerif.Gen.Threshold

/-- the method's own choice after the `n == 0 → 1` adjustment (`min_remove ≥ 1`) -/
def firstCut (n0 : Int) : Int := if n0 = 0 then 1 else n0

/-- the cap `max_samples` is used (`draw_constant and max_samples`) only with room for one new level:
`nlive < max_samples`.  NOT enforced by `check_configuration`. -/
def CapGuard (nlive : Int) (maxSamples : Option Int) (drawConstant : Bool) : Prop :=
  drawConstant = true → ∀ m, maxSamples = some m → m ≠ 0 → nlive < m

/-- the cap leaves room for `min_samples` survivors plus one new level: `min_samples + nlive ≤ max_samples` -/
def CapRoom (minSamples nlive : Int) (maxSamples : Option Int) (drawConstant : Bool) : Prop :=
  drawConstant = true → ∀ m, maxSamples = some m → m ≠ 0 → minSamples + nlive ≤ m

/-- **The index used for the threshold is a valid position**, whatever the method chose (`n0` is
arbitrary), for every size and parameter value with `min_samples, min_remove ≥ 1`, provided
`min_remove < size` and the cap leaves room for a level (`CapGuard`).  Neither guard is enforced by
the code (`check_configuration` only demands `min_remove ≤ nlive`, `min_samples ≤ nlive`). -/
theorem index_in_range (n0 size minSamples minRemove nlive : Int) (maxSamples : Option Int)
    (drawConstant : Bool) (hs : 1 ≤ minSamples) (hr : 1 ≤ minRemove) (hrs : minRemove < size)
    (hc : CapGuard nlive maxSamples drawConstant) :
    ∃ n, clampIndex n0 size minSamples minRemove nlive maxSamples drawConstant = Clamp.index n
      ∧ 0 ≤ n ∧ n < size := by
  refine ⟨_, clampIndex_eq hr, ?_⟩
  have hmin := clampMinima_mem (if n0 = 0 then 1 else n0) hs hr hrs
  cases h : maxSamplesInForce maxSamples drawConstant with
  | none => exact hmin
  | some m =>
    obtain ⟨hd, hm, hm0⟩ := maxSamplesInForce_eq_some.mp h
    have := hc hd m hm hm0
    simp only [clampMaxSamples]; omega

/-- the theorem applied: 20 live samples, `min_samples = 5`, `min_remove = 3`, cap 25 with `nlive = 10` -/
example : ∃ n, clampIndex 2 20 5 3 10 (some 25) true = Clamp.index n ∧ 0 ≤ n ∧ n < 20 :=
  index_in_range 2 20 5 3 10 (some 25) true (by decide) (by decide) (by decide)
    (by intro _ m hm _; cases hm; decide)

example : clampIndex 2 20 5 3 10 (some 25) true = Clamp.index 5 := by decide

/-- without `min_remove < size` the index runs past the array: 3 live samples, `min_remove = 3`
(allowed by `check_configuration` when `nlive = 3`) gives index 3 → `IndexError` in the real code. -/
theorem index_in_range_fails_without_min_remove_lt_size :
    clampIndex 1 3 1 3 3 none true = Clamp.index 3 ∧
      finish [10, 20, 30] (clampIndex 1 3 1 3 3 none true) = (Outcome.indexError : Outcome Int) := by
  decide

/-- without `nlive < max_samples` the cap pushes the index past the array
(20 live samples, `nlive = 10`, `max_samples = 5` → index 25). -/
theorem index_in_range_fails_without_cap_guard :
    clampIndex 2 20 1 1 10 (some 5) true = Clamp.index 25 ∧ ¬ CapGuard 10 (some 5) true := by
  refine ⟨by decide, ?_⟩
  intro h
  have := h rfl 5 rfl (by decide)
  omega

/-- **The threshold is the likelihood of one of the live samples**: under the guards of
`index_in_range` the method returns `logL[p]` for a position `p` of the live set. -/
theorem threshold_is_live_sample {α : Type} (logL : List α) (n0 minSamples minRemove nlive : Int)
    (maxSamples : Option Int) (drawConstant : Bool) (hs : 1 ≤ minSamples) (hr : 1 ≤ minRemove)
    (hrs : minRemove < (logL.length : Int)) (hc : CapGuard nlive maxSamples drawConstant) :
    ∃ (p : Nat) (hp : p < logL.length),
      finish logL (clampIndex n0 logL.length minSamples minRemove nlive maxSamples drawConstant)
        = Outcome.threshold p logL[p] ∧ logL[p] ∈ logL := by
  obtain ⟨n, hn, h0, h1⟩ :=
    index_in_range n0 logL.length minSamples minRemove nlive maxSamples drawConstant hs hr hrs hc
  refine ⟨n.toNat, by omega, ?_, List.getElem_mem _⟩
  rw [hn]
  exact finish_index logL n h0 h1

example : ∃ (p : Nat) (hp : p < ([10, 20, 30, 40] : List Int).length),
    finish ([10, 20, 30, 40] : List Int) (clampIndex 0 ([10, 20, 30, 40] : List Int).length 1 2 10 none true)
      = Outcome.threshold p ([10, 20, 30, 40] : List Int)[p] ∧
      ([10, 20, 30, 40] : List Int)[p] ∈ ([10, 20, 30, 40] : List Int) :=
  threshold_is_live_sample ([10, 20, 30, 40] : List Int) 0 1 2 10 none true (by decide) (by decide) (by decide)
    (by intro _ m hm; cases hm)

example : finish [10, 20, 30, 40] (clampIndex 0 4 1 2 10 none true)
    = (Outcome.threshold 2 30 : Outcome Int) := by decide

/-- **If the method's own choice would leave fewer than `min_samples`, exactly `min_samples`
positions are kept**: the index is `size - min_samples` (needs `min_samples ≤ size`, and a cap that
leaves room: `min_samples + nlive ≤ max_samples` when it is active). -/
theorem keeps_min_samples (n0 size minSamples minRemove nlive : Int) (maxSamples : Option Int)
    (drawConstant : Bool) (hr : 1 ≤ minRemove) (hsz : minSamples ≤ size)
    (hc : CapRoom minSamples nlive maxSamples drawConstant)
    (hfew : size - firstCut n0 < minSamples) :
    clampIndex n0 size minSamples minRemove nlive maxSamples drawConstant
      = Clamp.index (size - minSamples) := by
  unfold firstCut at hfew
  rw [clampIndex_eq hr, clampMinima, if_pos hfew]
  congr 1
  cases h : maxSamplesInForce maxSamples drawConstant with
  | none => simp only [clampMaxSamples]; omega
  | some m =>
    obtain ⟨hd, hm, hm0⟩ := maxSamplesInForce_eq_some.mp h
    have := hc hd m hm hm0
    simp only [clampMaxSamples]; omega

example : clampIndex 18 20 5 1 10 none true = Clamp.index (20 - 5) :=
  keeps_min_samples 18 20 5 1 10 none true (by decide) (by decide) (by intro _ m hm; cases hm) (by decide)

example : (20 : Int) - firstCut 18 < 5 ∧ clampIndex 18 20 5 1 10 none true = Clamp.index 15 := by decide

/-- with fewer live samples than `min_samples` nothing is removed and fewer than `min_samples` remain -/
theorem keeps_min_samples_fails_without_size :
    (3 : Int) - firstCut 2 < 5 ∧ clampIndex 2 3 5 1 10 none true = Clamp.index 0 ∧
      clampIndex 2 3 5 1 10 none true ≠ Clamp.index (3 - 5) := by decide

/-- an active cap without room (`max_samples < min_samples + nlive`) overrides `min_samples`:
20 samples, `min_samples = 8`, `nlive = 10`, `max_samples = 12` keeps 2, not 8. -/
theorem keeps_min_samples_fails_without_cap_room :
    (20 : Int) - firstCut 15 < 8 ∧ clampIndex 15 20 8 1 10 (some 12) true = Clamp.index 18 := by decide

/-- **Otherwise at least `min_remove` positions are removed**: the index is `≥ min_remove`
(no other hypothesis: any cap only increases the index).  In this branch `min_samples` is NOT
re-checked after the index has been raised to `min_remove`: see `min_remove_overrides_min_samples`.
That is what the property states ("…, otherwise at least min_remove are removed"), so it is not a
violation of the property, but `min_samples` is not a floor on the next level when
`min_remove > size - min_samples`. -/
theorem removes_min_remove (n0 size minSamples minRemove nlive : Int) (maxSamples : Option Int)
    (drawConstant : Bool) (hr : 1 ≤ minRemove) (hfew : ¬ size - firstCut n0 < minSamples) :
    ∃ n, clampIndex n0 size minSamples minRemove nlive maxSamples drawConstant = Clamp.index n
      ∧ minRemove ≤ n := by
  refine ⟨_, clampIndex_eq hr, ?_⟩
  unfold firstCut at hfew
  rw [clampMinima, if_neg hfew]
  cases maxSamplesInForce maxSamples drawConstant <;> simp only [clampMaxSamples] <;> omega

example : ∃ n, clampIndex 2 20 5 4 10 none true = Clamp.index n ∧ 4 ≤ n :=
  removes_min_remove 2 20 5 4 10 none true (by decide) (by decide)

example : ¬ ((20 : Int) - firstCut 2 < 5) ∧ clampIndex 2 20 5 4 10 none true = Clamp.index 4 := by decide

/-- `min_remove` overrides `min_samples`: 10 live samples, `min_samples = 8`, `min_remove = 5`, the
method chooses 1 (which would leave 9 ≥ 8, so the `min_samples` branch does not fire); the index is
raised to `min_remove = 5` and only 5 < `min_samples` samples survive. -/
theorem min_remove_overrides_min_samples :
    ¬ ((10 : Int) - firstCut 1 < 8) ∧ clampIndex 1 10 8 5 10 none true = Clamp.index 5 ∧
      (10 : Int) - 5 < 8 := by decide

/-- with `min_remove < 1` and a method that chose 0 the code returns the integer 0, not a threshold -/
theorem removes_min_remove_fails_without :
    clampIndex 0 20 5 0 10 none true = Clamp.early 0 := by decide

/-- **With constant draws and a cap the next level does not exceed `max_samples`**: the index `n`
used is a valid position (`0 ≤ n < size`, under the guards of `index_in_range`, here `nlive < m`)
and `(size - n) + nlive ≤ max_samples`. -/
theorem respects_max_samples (n0 size minSamples minRemove nlive m : Int)
    (hs : 1 ≤ minSamples) (hr : 1 ≤ minRemove) (hrs : minRemove < size) (hm : m ≠ 0)
    (hc : nlive < m) :
    ∃ n, clampIndex n0 size minSamples minRemove nlive (some m) true = Clamp.index n
      ∧ 0 ≤ n ∧ n < size ∧ (size - n) + nlive ≤ m := by
  refine ⟨_, clampIndex_eq hr, ?_⟩
  have hmin := clampMinima_mem (if n0 = 0 then 1 else n0) hs hr hrs
  rw [maxSamplesInForce_eq_some.mpr ⟨rfl, rfl, hm⟩]
  simp only [clampMaxSamples]; omega

example : ∃ n, clampIndex 2 20 1 1 10 (some 15) true = Clamp.index n ∧ 0 ≤ n ∧ n < 20 ∧ (20 - n) + 10 ≤ 15 :=
  respects_max_samples 2 20 1 1 10 15 (by decide) (by decide) (by decide) (by decide) (by decide)

example : clampIndex 2 20 1 1 10 (some 15) true = Clamp.index 15 ∧ ((20 : Int) - 15) + 10 ≤ 15 := by decide

/-- without the range guard `nlive < max_samples` the inequality still holds but for an index that
is not a position of the live set (`IndexError` in the code): 20 samples, `nlive = 10`, cap 5. -/
theorem respects_max_samples_fails_without :
    clampIndex 2 20 1 1 10 (some 5) true = Clamp.index 25 ∧ ((20 : Int) - 25) + 10 ≤ 5 ∧ ¬ ((25 : Int) < 20) := by
  decide

/-- **Every proposal is trained on at least `min_samples` samples**: the slice
`training_samples[n_train:]` has at least `min_samples` elements, whatever `np.argmax` returned
(`k ≥ 0`), as soon as the training set holds `min_samples` samples. -/
theorem train_floor (size : Nat) (minSamples k : Int) (hk : 0 ≤ k) (hsz : minSamples ≤ size) :
    minSamples ≤ pySliceLen size (nTrain size minSamples k) ∧ 0 ≤ nTrain size minSamples k := by
  have h : 0 ≤ nTrain size minSamples k := by simp only [nTrain]; omega
  rw [pySliceLen_of_nonneg size h]
  simp only [nTrain] at h ⊢; omega

example : (5 : Int) ≤ pySliceLen 20 (nTrain 20 5 17) ∧ 0 ≤ nTrain 20 5 17 :=
  train_floor 20 5 17 (by decide) (by decide)

example : nTrain 20 5 17 = 15 ∧ pySliceLen 20 (nTrain 20 5 17) = 5 := by decide

/-- with fewer than `min_samples` training samples `n_train` is negative and the Python slice
`x[-2:]` silently trains on the last 2 of 3 samples.  REACHABLE in real runs: `check_configuration`
compares `min_samples` with `nlive` only, not with `n_initial`, and the first proposal is trained on
the `n_initial` initial samples (known finding `add_new_proposal:n_initial<min_samples:…`). -/
theorem train_floor_fails_without :
    nTrain 3 5 0 = -2 ∧ pySliceLen 3 (nTrain 3 5 0) = 2 := by decide

/-- what the code does when the training set is smaller than `min_samples`: it trains on
`min(size, min_samples - size)` samples — all of them only if `min_samples ≥ 2·size`, and e.g. on a
single sample for `size = 29`, `min_samples = 30` (`x[-1:]`). -/
theorem train_len_when_fewer_than_min_samples (size : Nat) (minSamples k : Int) (hk : 0 ≤ k)
    (hsz : (size : Int) < minSamples) :
    (pySliceLen size (nTrain size minSamples k) : Int) = min (size : Int) (minSamples - size) := by
  have h : nTrain size minSamples k < 0 := by simp only [nTrain]; omega
  rw [pySliceLen_of_neg size h]
  simp only [nTrain] at h ⊢; omega

example : (pySliceLen 29 (nTrain 29 30 0) : Int) = min (29 : Int) (30 - 29) :=
  train_len_when_fewer_than_min_samples 29 30 0 (by decide) (by decide)

example : pySliceLen 29 (nTrain 29 30 0) = 1 ∧ pySliceLen 10 (nTrain 10 30 4) = 10 := by decide

/-- **From index to count.**  On a sorted live set, if the likelihoods at the cut are distinct
(everything before position `p` is strictly below `logL[p]`), the threshold `logL[p]` removes exactly
`p` samples (`remove_samples` counts `logL < threshold`) and keeps `size - p`. -/
theorem count_eq_index_of_distinct_cut {α : Type} [LinearOrder α] (logL : List α) (p : Nat)
    (hp : p < logL.length) (hsorted : logL.Pairwise (· ≤ ·))
    (hcut : ∀ i (hi : i < p), logL[i]'(by omega) < logL[p]) :
    countBelow logL[p] logL = p ∧ countKept logL[p] logL = logL.length - p := by
  have h := countBelow_eq_index logL p hp hsorted hcut
  have h2 := countKept_eq logL[p] logL
  omega

example : countBelow ([1, 2, 3, 3, 4] : List Int)[2] [1, 2, 3, 3, 4] = 2 ∧
    countKept ([1, 2, 3, 3, 4] : List Int)[2] [1, 2, 3, 3, 4] = 5 - 2 :=
  count_eq_index_of_distinct_cut ([1, 2, 3, 3, 4] : List Int) 2 (by decide) (by decide) (by decide)

example : countBelow (3 : Int) [1, 2, 3, 3, 4] = 2 := by decide

/-- **At least `min_remove` samples are removed** (count, not index) when the likelihoods at the
cut are distinct. -/
theorem removes_min_remove_count (logL : List Int) (n0 minSamples minRemove nlive : Int)
    (maxSamples : Option Int) (drawConstant : Bool) (hs : 1 ≤ minSamples) (hr : 1 ≤ minRemove)
    (hrs : minRemove < (logL.length : Int)) (hc : CapGuard nlive maxSamples drawConstant)
    (hfew : ¬ (logL.length : Int) - firstCut n0 < minSamples)
    (hsorted : logL.Pairwise (· ≤ ·)) :
    ∃ (p : Nat) (hp : p < logL.length),
      finish logL (clampIndex n0 logL.length minSamples minRemove nlive maxSamples drawConstant)
        = Outcome.threshold p logL[p] ∧
      ((∀ i (hi : i < p), logL[i]'(by omega) < logL[p]) → minRemove ≤ countBelow logL[p] logL) := by
  obtain ⟨n, hn, h0, h1⟩ :=
    index_in_range n0 logL.length minSamples minRemove nlive maxSamples drawConstant hs hr hrs hc
  obtain ⟨n', hn', hge⟩ :=
    removes_min_remove n0 logL.length minSamples minRemove nlive maxSamples drawConstant hr hfew
  obtain rfl : n = n' := Clamp.index.inj (hn.symm.trans hn')
  refine ⟨n.toNat, by omega, ?_, ?_⟩
  · rw [hn]; exact finish_index logL n h0 h1
  · intro hcut
    have := countBelow_eq_index logL n.toNat (by omega) hsorted hcut
    omega

example : ∃ (p : Nat) (hp : p < ([1, 2, 3, 4, 5, 6] : List Int).length),
    finish ([1, 2, 3, 4, 5, 6] : List Int)
      (clampIndex 1 ([1, 2, 3, 4, 5, 6] : List Int).length 2 3 10 none true)
        = Outcome.threshold p ([1, 2, 3, 4, 5, 6] : List Int)[p] ∧
    ((∀ i (hi : i < p), ([1, 2, 3, 4, 5, 6] : List Int)[i]'(by omega) < ([1, 2, 3, 4, 5, 6] : List Int)[p]) →
      (3 : Int) ≤ countBelow ([1, 2, 3, 4, 5, 6] : List Int)[p] [1, 2, 3, 4, 5, 6]) :=
  removes_min_remove_count [1, 2, 3, 4, 5, 6] 1 2 3 10 none true (by decide) (by decide) (by decide)
    (by intro _ m hm; cases hm) (by decide) (by decide)

/-- **Exactly `min_samples` samples are kept** (count) when the method's own choice would leave
fewer and the likelihoods at the cut are distinct. -/
theorem keeps_min_samples_count (logL : List Int) (n0 minSamples minRemove nlive : Int)
    (maxSamples : Option Int) (drawConstant : Bool) (hs : 1 ≤ minSamples) (hr : 1 ≤ minRemove)
    (hsz : minSamples ≤ (logL.length : Int))
    (hc : CapRoom minSamples nlive maxSamples drawConstant)
    (hfew : (logL.length : Int) - firstCut n0 < minSamples)
    (hsorted : logL.Pairwise (· ≤ ·)) :
    ∃ (p : Nat) (hp : p < logL.length),
      finish logL (clampIndex n0 logL.length minSamples minRemove nlive maxSamples drawConstant)
        = Outcome.threshold p logL[p] ∧
      ((∀ i (hi : i < p), logL[i]'(by omega) < logL[p]) →
        (countKept logL[p] logL : Int) = minSamples) := by
  have hk := keeps_min_samples n0 logL.length minSamples minRemove nlive maxSamples drawConstant
    hr hsz hc hfew
  refine ⟨((logL.length : Int) - minSamples).toNat, by omega, ?_, ?_⟩
  · rw [hk]; exact finish_index logL _ (by omega) (by omega)
  · intro hcut
    have := (count_eq_index_of_distinct_cut logL _ (by omega) hsorted hcut).2
    omega

example : ∃ (p : Nat) (hp : p < ([1, 2, 3, 4, 5, 6] : List Int).length),
    finish ([1, 2, 3, 4, 5, 6] : List Int)
      (clampIndex 5 ([1, 2, 3, 4, 5, 6] : List Int).length 2 1 10 none true)
        = Outcome.threshold p ([1, 2, 3, 4, 5, 6] : List Int)[p] ∧
    ((∀ i (hi : i < p), ([1, 2, 3, 4, 5, 6] : List Int)[i]'(by omega) < ([1, 2, 3, 4, 5, 6] : List Int)[p]) →
      (countKept ([1, 2, 3, 4, 5, 6] : List Int)[p] [1, 2, 3, 4, 5, 6] : Int) = 2) :=
  keeps_min_samples_count [1, 2, 3, 4, 5, 6] 5 2 1 10 none true (by decide) (by decide) (by decide)
    (by intro _ m hm; cases hm) (by decide) (by decide)

/-- **F5 — tied likelihoods defeat `min_remove`.**  `logL = [1,1,1,2]`, `min_remove = 2`: the
clamp chooses index 2 (as it must), the threshold is `logL[2] = 1`, and `remove_samples` removes
`count(logL < 1) = 0` samples instead of at least 2.  The index guarantee holds, the count does not. -/
theorem ties_break_min_remove :
    clampIndex 1 4 1 2 10 none true = Clamp.index 2 ∧
    finish [1, 1, 1, 2] (clampIndex 1 4 1 2 10 none true) = (Outcome.threshold 2 1 : Outcome Int) ∧
    countBelow (1 : Int) [1, 1, 1, 2] = 0 ∧ ¬ (2 ≤ countBelow (1 : Int) [1, 1, 1, 2]) := by decide

/-- the same defect on the `min_samples` side: `logL = [1,2,2,2]`, `min_samples = 2`, a method that
wants to remove 3: index 2, threshold 2, and 3 samples are kept instead of exactly 2. -/
theorem ties_break_min_samples :
    clampIndex 3 4 2 1 10 none true = Clamp.index 2 ∧
    finish [1, 2, 2, 2] (clampIndex 3 4 2 1 10 none true) = (Outcome.threshold 2 2 : Outcome Int) ∧
    countKept (2 : Int) [1, 2, 2, 2] = 3 := by decide

section Quantile
variable {K : Type} [Field K] [LinearOrder K] [IsStrictOrderedRing K]

/-- **The weighted quantile is a convex combination of the data.**  For any non-decreasing table
`tbl` (the regularised incomplete beta function at the cumulative end points) that starts at
`I(0) = 0` and ends at `I(1) = 1`, the Harrell–Davis weights `tbl[i+1] - tbl[i]` are non-negative,
sum to one, and the estimate is their dot product with the data. -/
theorem quantile_is_convex_combination (t0 : K) (ts vals : List K)
    (hmono : (t0 :: ts).Pairwise (· ≤ ·)) (h0 : t0 = 0) (h1 : (t0 :: ts).getLastD 0 = 1) :
    (∀ w ∈ wqWeights (t0 :: ts), 0 ≤ w) ∧ (wqWeights (t0 :: ts)).sum = 1 ∧
      wq (t0 :: ts) vals = (List.zipWith (· * ·) (wqWeights (t0 :: ts)) vals).sum := by
  refine ⟨wqWeights_nonneg _ hmono, ?_, wq_eq_dot _ _⟩
  rw [wqWeights_sum, h1, h0, sub_zero]

/-- **The weighted quantile lies within the data range** (any bounds `lo ≤ vᵢ ≤ hi` of the data
bound the estimate), for every monotone table with `I(0)=0`, `I(1)=1` — in particular for every
weight vector and every `q`. -/
theorem quantile_convex (lo hi t0 : K) (ts vals : List K)
    (hmono : (t0 :: ts).Pairwise (· ≤ ·)) (h0 : t0 = 0) (h1 : (t0 :: ts).getLastD 0 = 1)
    (hlen : ts.length = vals.length) (hv : ∀ v ∈ vals, lo ≤ v ∧ v ≤ hi) :
    lo ≤ wq (t0 :: ts) vals ∧ wq (t0 :: ts) vals ≤ hi := by
  subst h0
  have h := dot_bounds lo hi (wqWeights (0 :: ts)) vals (wqWeights_nonneg _ hmono)
    (by rw [wqWeights_length]; exact hlen.le) hv
  rwa [← wq_eq_dot, wqWeights_sum, h1, sub_zero, one_mul, one_mul] at h

example : (2 : ℚ) ≤ wq [(0 : ℚ), 1/4, 1] [2, 6] ∧ wq [(0 : ℚ), 1/4, 1] [2, 6] ≤ 6 :=
  quantile_convex 2 6 0 [1/4, 1] [2, 6] (by decide +kernel) rfl (by decide +kernel) rfl
    (by decide +kernel)

example : (∀ w ∈ wqWeights [(0 : ℚ), 1/4, 1], 0 ≤ w) ∧ (wqWeights [(0 : ℚ), 1/4, 1]).sum = 1 ∧
    wq [(0 : ℚ), 1/4, 1] [2, 6] = (List.zipWith (· * ·) (wqWeights [(0 : ℚ), 1/4, 1]) [2, 6]).sum :=
  quantile_is_convex_combination 0 [1/4, 1] [2, 6] (by decide +kernel) rfl (by decide +kernel)

example : wq [(0 : Rat), 1/4, 1] [2, 6] = 5 ∧ (2 : Rat) ≤ 5 ∧ (5 : Rat) ≤ 6 := by decide +kernel

/-- **Monotone in the quantile**, under the stated stochastic-monotonicity hypothesis: if the table
for `q'` lies pointwise below the table for `q` (for `q ≤ q'` the Beta distribution
`B(q(neff+1), (1-q)(neff+1))`, `neff` the Kish effective sample size of the weights, moves to the right, so its
CDF decreases at every end point — assumed of SciPy's `betainc`, not proved), with equal first and last entries,
and the data are sorted, then the estimate for `q'` is not smaller (`s0 :: ss` is the table for `q'`, `t0 :: ts` the one
for `q`). -/
theorem quantile_monotone (t0 s0 : K) (ts ss vals : List K)
    (hdom : List.Forall₂ (· ≤ ·) (s0 :: ss) (t0 :: ts)) (hlen : ts.length = vals.length)
    (hsorted : vals.Pairwise (· ≤ ·)) (hfirst : t0 = s0)
    (hlast : (t0 :: ts).getLastD 0 = (s0 :: ss).getLastD 0) :
    wq (t0 :: ts) vals ≤ wq (s0 :: ss) vals := by
  subst hfirst
  cases hdom with | cons h0 hf =>
  have hv : ∀ x ∈ vals, vals.headD 0 ≤ x := by
    cases hsorted with
    | nil => exact fun _ h => nomatch h
    | cons h _ => exact List.forall_mem_cons.mpr ⟨le_rfl, h⟩
  have := wq_sub_le hf t0 t0 _ vals h0 hlen hsorted hv hlast
  rwa [sub_self, zero_mul, sub_nonpos] at this

example : wq [(0 : ℚ), 1/2, 1] [2, 6] ≤ wq [(0 : ℚ), 1/4, 1] [2, 6] :=
  quantile_monotone 0 0 [1/2, 1] [1/4, 1] [2, 6]
    (by decide +kernel) rfl (by decide +kernel) rfl (by decide +kernel)

example : wq [(0 : Rat), 1/2, 1] [2, 6] = 4 ∧ wq [(0 : Rat), 1/4, 1] [2, 6] = 5 := by decide +kernel

end Quantile
end NessaiVerif.C17
