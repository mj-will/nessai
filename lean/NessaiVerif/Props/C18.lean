import NessaiVerif.Model.LivePoint
import NessaiVerif.Proofs.LivePoint
import NessaiVerif.Gen.LivePointTx
/-
C18 — live-point conversions preserve names, order, values and defaults.

Vocabulary (Model/LivePoint.lean, Proofs/LivePoint.lean):
* `canon cfg r names nsp data` — THE live-point array for parameter names `names` and parameter
  records `data`: fields `names ++ [logP, logL, it] ++ registered extras` (just `names` when
  `nsp = false`), record `i` = `data[i] ++ [NaN, NaN, 0] ++ registered defaults`.
* `Fresh r names nsp` — the names are distinct and (when non-sampling fields are requested) none of
  them is `logP`, `logL`, `it` or a registered extra, and no extra is registered as `logP`, `logL` or `it`.
  This is exactly the condition under which NumPy accepts the dtype: see `names_must_be_fresh` /
  `array_roundtrip_fails_without`.
* `LP.WF` — records have one value per field, field names distinct, and the count `nf` of leading float fields
  does not exceed the number of fields.
All theorems hold for every value type `V` (floats incl. NaN payloads, ±inf, … are just values:
no arithmetic or comparison is ever applied to them), every number of names ≥ 1, every number of
points including 0 and 1, and every registry state `r` (hence after every add/reset history).
-/
namespace NessaiVerif.C18
open NessaiVerif.LivePoint

variable {V : Type}

/-- every array the conversions return is well formed (one value per field, distinct fields) -/
theorem conversions_wf (cfg : Cfg V) (r : Registry V) (names : List String) (nsp : Bool)
    (data : List (List V)) (hf : Fresh r names nsp) (hd : ∀ row ∈ data, row.length = names.length) :
    (canon cfg r names nsp data).WF := by
  refine ⟨hf, nfOf_le.2, fun row hrow => ?_⟩
  obtain ⟨d, hd', rfl⟩ := List.mem_map.1 hrow
  rw [List.length_append, hd d hd', length_tail]
  exact List.length_append.symm

/-- `numpy_array_to_live_points` on an `n × k` array (any `n`, including 0 and 1) returns exactly
the canonical array: the given names in the given order followed by the non-sampling fields, the
given values in place, defaults elsewhere. -/
theorem array_to_live_points (cfg : Cfg V) (r : Registry V) (names : List String) (nsp : Bool)
    (rows : List (List V)) (hf : Fresh r names nsp) (hne : names ≠ [])
    (hr : ∀ row ∈ rows, row.length = names.length) :
    numpyArrayToLivePoints cfg r (.d2 names.length rows) names nsp
      = .ok (canon cfg r names nsp rows) := by
  rw [numpyArray_ok (.d2 names.length rows) hf hne (Nat.le_refl _)]
  exact congrArg (Except.ok ∘ canon cfg r names nsp)
    ((List.map_congr_left fun d hd => List.take_of_length_le (Nat.le_of_eq (hr d hd))).trans (List.map_id _))

/-- a 1-d array is one point: same result as the `1 × k` array -/
theorem array_1d_is_one_point (cfg : Cfg V) (r : Registry V) (names : List String) (nsp : Bool)
    (xs : List V) (hf : Fresh r names nsp) (hne : names ≠ []) (hx : xs.length = names.length) :
    numpyArrayToLivePoints cfg r (.d1 xs) names nsp = .ok (canon cfg r names nsp [xs]) := by
  rw [numpyArray_ok (.d1 xs) hf hne (Nat.le_of_eq hx.symm)]
  exact congrArg (fun d => Except.ok (canon cfg r names nsp [d])) (List.take_of_length_le (Nat.le_of_eq hx))

/-- an empty array (shape `(0,)`) gives the empty live-point array WITH the full dtype -/
theorem array_empty (cfg : Cfg V) (r : Registry V) (names : List String) (nsp : Bool)
    (hf : Fresh r names nsp) :
    numpyArrayToLivePoints cfg r (.d1 []) names nsp = .ok (canon cfg r names nsp []) := by
  have h0 : (NpArr.d1 ([] : List V)).size = 0 := rfl
  rw [numpyArrayToLivePoints, if_pos h0]
  exact emptyStructured_zero hf

/-- **Round trip array → live points → array**: same values, same order, for every number of
points; the live points carry the names in order followed by the non-sampling fields. -/
theorem array_roundtrip (cfg : Cfg V) (r : Registry V) (names : List String) (nsp : Bool)
    (rows : List (List V)) (hf : Fresh r names nsp) (hne : names ≠ [])
    (hr : ∀ row ∈ rows, row.length = names.length) :
    ∃ lp, numpyArrayToLivePoints cfg r (.d2 names.length rows) names nsp = .ok lp
      ∧ lp.fields = names ++ nsNames r nsp
      ∧ lp.rows.length = rows.length
      ∧ livePointsToArray lp (some names) = .ok (names.length, rows) :=
  ⟨_, array_to_live_points cfg r names nsp rows hf hne hr, rfl, List.length_map _,
    canon_toArray hf hne hr⟩

/-- `live_points_to_array(x, names)` for ANY selection of distinct existing fields, in any order:
column `j` of the result is field `names[j]`, for every point. -/
theorem to_array_selects_fields (lp : LP V) (hw : lp.WF) (sel : List String) (hne : sel ≠ [])
    (hnd : sel.Nodup) (hsub : ∀ f ∈ sel, f ∈ lp.fields) :
    ∃ out, livePointsToArray lp (some sel) = .ok (sel.length, out)
      ∧ out.length = lp.rows.length
      ∧ ∀ (i j : Nat) (f : String), sel[j]? = some f →
          (out[i]?).bind (fun (row : List V) => row[j]?) = getField lp f i := by
  refine ⟨_, toArray_ok lp hne hnd hsub, List.length_map _, fun i j f hf => ?_⟩
  rw [getField_of_mem lp (hsub f (List.mem_of_getElem? hf)), List.getElem?_map]
  cases hrow : lp.rows[i]? with
  | none => rfl
  | some row =>
    have hall : ∀ a ∈ sel, (row[lp.fields.idxOf a]?).isSome = true := fun a ha => by
      rw [isSome_getElem?, hw.rect row (List.mem_of_getElem? hrow)]
      exact List.idxOf_lt_length_iff.2 (hsub a ha)
    show (sel.filterMap _)[j]? = _
    rw [getElem?_filterMap_all_some hall j, hf]; rfl

/-- The freshness hypothesis is needed and is what the code enforces: a repeated parameter name,
or a parameter called like a non-sampling field (`logL`, `it`, a registered extra), makes
`np.dtype` raise `ValueError` — nothing is silently overwritten. -/
theorem names_must_be_fresh (cfg : Cfg V) (r : Registry V) (names : List String) (nsp : Bool)
    (a : NpArr V) (h : ¬ Fresh r names nsp) :
    numpyArrayToLivePoints cfg r a names nsp = .error .valueErr := by
  rw [numpyArrayToLivePoints, emptyStructured_err 0 h, emptyStructured_err _ h]
  exact ite_self _

/-- concrete instances of the excluded inputs: a duplicated name, the reserved name `logL`, a
registered extra — all rejected; `logL` is an ordinary name when non-sampling fields are off. -/
theorem array_roundtrip_fails_without :
    let c : Cfg Int := { nan := -1, it0 := 0 }
    (numpyArrayToLivePoints c ⟨[]⟩ (.d2 2 [[1, 2]]) ["x", "x"] true).toOption = none
    ∧ (numpyArrayToLivePoints c ⟨[]⟩ (.d2 2 [[1, 2]]) ["x", "logL"] true).toOption = none
    ∧ (numpyArrayToLivePoints c ⟨[("q", 5)]⟩ (.d2 2 [[1, 2]]) ["x", "q"] true).toOption = none
    ∧ (numpyArrayToLivePoints c ⟨[]⟩ (.d2 2 [[1, 2]]) ["x", "logL"] false).toOption
        = some ⟨["x", "logL"], 2, [[1, 2]]⟩ := by decide +kernel

/-- `parameters_to_live_point`: one point holding the values in order, defaults after them;
read back by name it gives the tuple. -/
theorem tuple_roundtrip (cfg : Cfg V) (r : Registry V) (names : List String) (nsp : Bool)
    (ps : List V) (hf : Fresh r names nsp) (hne : names ≠ []) (hp : ps.length = names.length) :
    parametersToLivePoint cfg r ps names nsp = .ok (canon cfg r names nsp [ps])
      ∧ livePointsToArray (canon cfg r names nsp [ps]) (some names) = .ok (names.length, [ps]) := by
  refine ⟨?_, canon_toArray hf hne (by simpa using hp)⟩
  have hps : ps ≠ [] := fun h => hne (List.eq_nil_of_length_eq_zero (by rw [← hp, h]; rfl))
  rw [parametersToLivePoint, if_neg (by simpa using hps), getDtype_ok hf]
  exact if_pos (by rw [List.length_append, List.length_append, hp, length_tail])

/-- the empty tuple gives the empty array with the full dtype -/
theorem tuple_empty (cfg : Cfg V) (r : Registry V) (names : List String) (nsp : Bool)
    (hf : Fresh r names nsp) :
    parametersToLivePoint cfg r [] names nsp = .ok (canon cfg r names nsp []) := by
  rw [parametersToLivePoint, List.isEmpty_nil, if_pos rfl]
  exact emptyStructured_zero hf

/-- a dictionary of scalars is one point: names in insertion order, values in place -/
theorem dict_scalars_to_live_point (cfg : Cfg V) (r : Registry V) (names : List String) (nsp : Bool)
    (vals : List V) (hf : Fresh r names nsp) (hne : names ≠ []) (hv : vals.length = names.length) :
    dictToLivePoints cfg r (names.zip (vals.map .scalar)) nsp = .ok (canon cfg r names nsp [vals]) := by
  match names, vals, hne, hv with
  | a :: ns, v :: vs, _, hv =>
    have hkeys : a :: (ns.zip (vs.map DVal.scalar)).map Prod.fst = a :: ns :=
      congrArg (a :: ·) (List.map_fst_zip (by simpa using Nat.le_of_eq hv.symm))
    exact dictToLivePoints_scalars hkeys hf (allSome_scalars hv)

/-- a dictionary of equal-length sequences (any number of points `n`, including 0 and 1) becomes
the canonical array of the transposed values -/
theorem dict_arrays_to_live_points (cfg : Cfg V) (r : Registry V) (names : List String) (nsp : Bool)
    (cols : List (List V)) (n : Nat) (hf : Fresh r names nsp) (hne : names ≠ [])
    (hc : cols.length = names.length) (hn : ∀ c ∈ cols, c.length = n) :
    dictToLivePoints cfg r (names.zip (cols.map .arr)) nsp
      = .ok (canon cfg r names nsp (transpose n cols)) := by
  match names, cols, hne, hc with
  | a :: ns, c :: cs, _, hc =>
    obtain rfl : c.length = n := hn c (List.mem_cons_self ..)
    have hkeys : a :: (ns.zip (cs.map DVal.arr)).map Prod.fst = a :: ns :=
      congrArg (a :: ·) (List.map_fst_zip (by simpa using Nat.le_of_eq hc.symm))
    exact dictToLivePoints_columns hkeys hf (allSome_columns hc hn)

/-- **Round trip dictionary → live points → dictionary** (any number of points, including 0 and
1): the same keys in the same order with the same sequences. -/
theorem dict_roundtrip (cfg : Cfg V) (r : Registry V) (names : List String) (nsp : Bool)
    (cols : List (List V)) (n : Nat) (hf : Fresh r names nsp) (hne : names ≠ [])
    (hc : cols.length = names.length) (hn : ∀ c ∈ cols, c.length = n) :
    ∃ lp, dictToLivePoints cfg r (names.zip (cols.map .arr)) nsp = .ok lp
      ∧ lp.fields = names ++ nsNames r nsp
      ∧ livePointsToDict lp (some names) = .ok (names.zip cols) := by
  refine ⟨_, dict_arrays_to_live_points cfg r names nsp cols n hf hne hc hn, rfl, ?_⟩
  rw [canon_toDict hf fun row h => by rw [length_of_mem_transpose n cols row h, hc], ← hc, transpose_transpose hn]

/-- **Round trip live points → dictionary → live points** (any number of points, incl. 0 and 1) -/
theorem live_points_dict_roundtrip (cfg : Cfg V) (r : Registry V) (names : List String) (nsp : Bool)
    (data : List (List V)) (hf : Fresh r names nsp) (hne : names ≠ [])
    (hd : ∀ row ∈ data, row.length = names.length) :
    ∃ d, livePointsToDict (canon cfg r names nsp data) (some names) = .ok d
      ∧ dictToLivePoints cfg r (d.map fun kv => (kv.1, DVal.arr kv.2)) nsp
          = .ok (canon cfg r names nsp data) := by
  refine ⟨_, canon_toDict hf hd, ?_⟩
  show dictToLivePoints cfg r ((names.zip (transpose names.length data)).map (Prod.map id DVal.arr)) nsp = _
  rw [← List.zip_map_right, dict_arrays_to_live_points cfg r names nsp _ data.length hf hne
    (length_transpose hd) (length_of_mem_transpose _ data), transpose_transpose hd]

/-- **Default-argument path, part 1 — rejected.**  `live_points_to_dict(x)` with its default
`names=None` returns ALL fields, non-sampling ones included; feeding that to
`dict_to_live_points(d)` with its default `non_sampling_parameters=True` makes `logP, logL, it, …`
occur twice in the dtype, and the conversion raises `ValueError` for every number of points
(observed on the real code).  So the selection `some names` in `live_points_dict_roundtrip`
cannot be replaced by the default: the keys of a dictionary are parameter names and must be
`Fresh` (this is `names_must_be_fresh` for dictionaries — a loud rejection, nothing is silently
overwritten). -/
theorem live_points_dict_roundtrip_fails_without (cfg : Cfg V) (r : Registry V) (names : List String)
    (data : List (List V)) (hf : Fresh r names true) (hne : names ≠ [])
    (hd : ∀ row ∈ data, row.length = names.length) :
    ∃ d, livePointsToDict (canon cfg r names true data) none = .ok d
      ∧ d.map Prod.fst = names ++ nonSamplingNames r
      ∧ dictToLivePoints cfg r (d.map fun kv => (kv.1, DVal.arr kv.2)) true = .error .valueErr := by
  have hkeys : ∀ (G : String → List V) (l : List String),
      ((l.map fun f => (f, G f)).map fun kv => (kv.1, DVal.arr kv.2)).map Prod.fst = l := fun G l => by
    rw [List.map_map, List.map_map]; exact List.map_id'' (fun _ => rfl) l
  -- `names=None` selects every field
  refine ⟨_, toDict_ok _ (sel := names ++ nonSamplingNames r) hf fun _ h => h,
    by rw [List.map_map]; exact List.map_id'' (fun _ => rfl) _, ?_⟩
  refine dictToLivePoints_err
    (fun h => hne (List.append_eq_nil_iff.1 (List.map_eq_nil_iff.1 (List.map_eq_nil_iff.1 h))).1) ?_
  -- the keys hold `logP`, which the dtype would then hold twice
  rw [hkeys]
  have hlogP : "logP" ∈ nonSamplingNames r := List.mem_append_left _ (List.mem_cons_self ..)
  exact fun h => (List.nodup_append.1 h).2.2 "logP" (List.mem_append_right _ hlogP) "logP" hlogP rfl

/-- **Default-argument path, part 2 — works without re-adding the non-sampling fields.**  For any
well-formed array, `live_points_to_dict(x)` (all fields) followed by
`dict_to_live_points(d, non_sampling_parameters=False)` returns the same field names in the same
order with the same values for every number of points, the stored non-sampling values included.
(Only the layout differs: every field, `it` included, now has the default float dtype — `nf` is the
number of fields; on the real code `it` comes back as `0.0` instead of integer `0`.) -/
theorem live_points_dict_all_fields_roundtrip (cfg : Cfg V) (r : Registry V) (lp : LP V) (hw : lp.WF)
    (hne : lp.fields ≠ []) :
    ∃ d, livePointsToDict lp none = .ok d
      ∧ d.map Prod.fst = lp.fields
      ∧ dictToLivePoints cfg r (d.map fun kv => (kv.1, DVal.arr kv.2)) false
          = .ok ⟨lp.fields, lp.fields.length, lp.rows⟩ := by
  have hf : Fresh r lp.fields false := show (lp.fields ++ []).Nodup from (List.append_nil _).symm ▸ hw.nodup
  -- without non-sampling fields the canonical array is the array itself, up to `nf`
  have hc : canon cfg r lp.fields false lp.rows = ⟨lp.fields, lp.fields.length, lp.rows⟩ := by
    simp [canon, nsNames, tail, nfOf]
  have h1 := canon_toDict (cfg := cfg) hf hw.rect
  obtain ⟨d, hd, h2⟩ := live_points_dict_roundtrip cfg r lp.fields false lp.rows hf hne hw.rect
  obtain rfl := Except.ok.inj (hd.symm.trans h1)
  rw [hc] at h1 h2
  exact ⟨_, h1, List.map_fst_zip (Nat.le_of_eq (length_transpose hw.rect).symm), h2⟩

/-- **Regression guard for the repaired defect** (nessai 0091c80).  A dictionary holding ONE point
as length-one sequences — exactly what `live_points_to_dict` returns for a single live point —
converts to the one-point canonical array (before the repair the `N == 1` branch handed the
sequences to `np.array([tuple])`, which raised `ValueError`). -/
theorem dict_length_one_sequences (cfg : Cfg V) (r : Registry V) (names : List String) (nsp : Bool)
    (vals : List V) (hf : Fresh r names nsp) (hne : names ≠ []) (hv : vals.length = names.length) :
    dictToLivePoints cfg r (names.zip ((vals.map fun v => [v]).map .arr)) nsp
        = .ok (canon cfg r names nsp [vals])
      ∧ dictToLivePoints cfg r (names.zip ((vals.map fun v => [v]).map .arr)) nsp
        = dictToLivePoints cfg r (names.zip (vals.map .scalar)) nsp := by
  have h1 := dict_arrays_to_live_points cfg r names nsp (vals.map fun v => [v]) 1 hf hne
    (by rw [List.length_map, hv]) fun c hc => by obtain ⟨v, _, rfl⟩ := List.mem_map.1 hc; rfl
  rw [transpose_singletons] at h1
  exact ⟨h1, by rw [h1, dict_scalars_to_live_point cfg r names nsp vals hf hne hv]⟩

/-- the scalar branch is decided by the FIRST value only: a scalar first value followed by a
sequence is rejected (`ValueError`), whatever the sequence's length — model = code -/
theorem dict_scalar_then_sequence_rejected (cfg : Cfg V) (r : Registry V) (k k' : String) (x : V)
    (xs : List V) (rest : List (String × DVal V)) (nsp : Bool) :
    ∃ e, dictToLivePoints cfg r ((k, .scalar x) :: (k', .arr xs) :: rest) nsp = .error e := by
  simp only [dictToLivePoints, List.map_cons, DVal.scalar?, allSome]
  cases getDtype cfg r (k :: k' :: rest.map Prod.fst) nsp with
  | error e => exact ⟨e, rfl⟩
  | ok dt => exact ⟨.valueErr, rfl⟩

/-- `dataframe_to_live_points`: the canonical array of the frame's rows under the column labels,
for every number of rows including 0 and 1 -/
theorem dataframe_to_live_points (cfg : Cfg V) (r : Registry V) (cols : List String) (nsp : Bool)
    (rows : List (List V)) (hf : Fresh r cols nsp) (hr : ∀ row ∈ rows, row.length = cols.length) :
    dataframeToLivePoints cfg r cols rows nsp = .ok (canon cfg r cols nsp rows) := by
  rw [dataframeToLivePoints, getDtype_ok hf]
  exact if_pos (List.all_eq_true.2 fun row hrow =>
    beq_iff_eq.2 ((conversions_wf cfg r cols nsp rows hf hr).rect row hrow))

/-- at this level of abstraction a data frame IS the dictionary of its columns: for every number
of rows (0, 1, n) both conversions return the same array, and it agrees with the plain-array
conversion. -/
theorem dataframe_eq_dict_eq_array (cfg : Cfg V) (r : Registry V) (names : List String) (nsp : Bool)
    (rows : List (List V)) (hf : Fresh r names nsp) (hne : names ≠ [])
    (hr : ∀ row ∈ rows, row.length = names.length) :
    dataframeToLivePoints cfg r names rows nsp
        = numpyArrayToLivePoints cfg r (.d2 names.length rows) names nsp
      ∧ dataframeToLivePoints cfg r names rows nsp
          = dictToLivePoints cfg r (names.zip ((transpose names.length rows).map .arr)) nsp := by
  rw [dataframe_to_live_points cfg r names nsp rows hf hr, array_to_live_points cfg r names nsp rows hf hne hr,
    dict_arrays_to_live_points cfg r names nsp _ rows.length hf hne (length_transpose hr)
      (length_of_mem_transpose _ rows), transpose_transpose hr]
  exact ⟨rfl, rfl⟩

/-- **Defaults.**  In every array produced by the conversions (they all return `canon`), reading
the non-sampling fields gives, for every point: `logP = NaN`, `logL = NaN`, `it = 0`, and every
registered extra field its registered default — in this order. -/
theorem defaults (cfg : Cfg V) (r : Registry V) (names : List String) (data : List (List V))
    (hf : Fresh r names true) (hd : ∀ row ∈ data, row.length = names.length) :
    livePointsToDict (canon cfg r names true data) (some (["logP", "logL", "it"] ++ r.names))
      = .ok ((["logP", "logL", "it"] ++ r.names).zip
          (([cfg.nan, cfg.nan, cfg.it0] ++ r.defaults).map (List.replicate data.length ·))) := by
  show livePointsToDict _ (some (nonSamplingNames r))
    = .ok ((nonSamplingNames r).zip ((nonSamplingDefaults cfg r).map (List.replicate data.length ·)))
  have hlt : (nonSamplingDefaults cfg r).length = (nonSamplingNames r).length := length_tail (nsp := true)
  rw [toDict_ok (sel := nonSamplingNames r) _ (List.nodup_append.1 hf).2.1 fun f hf => List.mem_append_right _ hf]
  refine congrArg Except.ok (map_eq_zip (by rw [List.length_map, hlt]) fun j f hjf => ?_)
  have hj : j < (nonSamplingDefaults cfg r).length := hlt ▸ (List.getElem?_eq_some_iff.1 hjf).1
  show _ = some (getCol ((names ++ nonSamplingNames r).idxOf f) (data.map (· ++ nonSamplingDefaults cfg r)))
  -- the field is at position `names.length + j`, where every record holds default `j`
  rw [idxOf_of_getElem? (l := names ++ nonSamplingNames r) hf (j := names.length + j)
      (by rw [List.getElem?_append_right (Nat.le_add_right ..), Nat.add_sub_cancel_left]; exact hjf),
    getCol_map_append_right hd (List.getElem?_eq_getElem hj), List.getElem?_map, List.getElem?_eq_getElem hj]
  rfl

/-- `empty_structured_array(n, names)`: `n` points, every parameter NaN, non-sampling fields at
their defaults; without non-sampling fields the dtype is exactly the names -/
theorem empty_structured (cfg : Cfg V) (r : Registry V) (n : Nat) (names : List String) (nsp : Bool)
    (hf : Fresh r names nsp) (hne : names ≠ []) :
    emptyStructured cfg r n names nsp
        = .ok (canon cfg r names nsp (List.replicate n (names.map fun _ => cfg.nan)))
      ∧ (canon cfg r names false (List.replicate n (names.map fun _ => cfg.nan))).fields = names := by
  refine ⟨emptyStructured_pos n hf hne, ?_⟩
  simp [canon, nsNames]

/-- **Registry history, part 1.**  Whatever happened before, after a reset followed by any
sequence of registrations the registry holds exactly the first registration of every name, in
registration order, with the default given at that first registration (duplicates skipped).  (That the model's `add`
is the loop of the source as it is now: `add_extra_source_eq_model`, at the end of the file.) -/
theorem registry_history_after_reset (cfg : Cfg V) (r0 : Registry V) (pre adds : List (RegOp V))
    (h : ∀ op ∈ adds, op.isReset = false) :
    (applyOps cfg r0 (pre ++ [.reset] ++ adds)).extras = firstOcc (adds.flatMap (RegOp.pairs cfg)) := by
  have : applyOps cfg r0 (pre ++ [.reset] ++ adds) = applyOps cfg ⟨[]⟩ adds := by
    simp [applyOps, List.foldl_append, applyOp, reset]
  rw [this, applyOps_noreset _ h, foldl_addOne]
  simp [Registry.names]

/-- **Registry history, part 2.**  A reset-free history from the pristine registry. -/
theorem registry_history_no_reset (cfg : Cfg V) (adds : List (RegOp V))
    (h : ∀ op ∈ adds, op.isReset = false) :
    (applyOps cfg ⟨[]⟩ adds).extras = firstOcc (adds.flatMap (RegOp.pairs cfg)) :=
  -- the pristine registry is the registry after a reset
  registry_history_after_reset cfg ⟨[]⟩ [] adds h

/-- every history is of one of the two forms covered by parts 1 and 2 -/
theorem registry_history_cases (ops : List (RegOp V)) :
    (∀ op ∈ ops, op.isReset = false)
      ∨ ∃ pre adds, ops = pre ++ [.reset] ++ adds ∧ ∀ op ∈ adds, op.isReset = false := by
  induction ops with
  | nil => exact .inl nofun
  | cons op rest ih =>
    rcases ih with h | ⟨pre, adds, rfl, ha⟩
    · cases op with
      | reset => exact .inr ⟨[], rest, rfl, h⟩
      | add ps dvs => exact .inl (List.forall_mem_cons.2 ⟨rfl, h⟩)
    · exact .inr ⟨op :: pre, adds, rfl, ha⟩

/-- no history ever registers a name twice -/
theorem registry_no_duplicates (cfg : Cfg V) (ops : List (RegOp V)) :
    (applyOps cfg ⟨[]⟩ ops).names.Nodup := by
  rcases registry_history_cases ops with h | ⟨pre, adds, rfl, ha⟩
  · rw [Registry.names, registry_history_no_reset cfg ops h]
    exact firstOcc_keys_nodup _
  · rw [Registry.names, registry_history_after_reset cfg _ pre adds ha]
    exact firstOcc_keys_nodup _

/-- **Newly built arrays follow the registry, and nothing else does.**  After any history, an
array built now has exactly the fields `names ++ [logP, logL, it] ++ currently registered extras`
(registration order); after a reset exactly `names ++ [logP, logL, it]`.  Reading arrays back
(`livePointsToArray`, `livePointsToDict`, `unstructuredView`) does not take the registry as an
argument at all: arrays built earlier are values and are unaffected by later registry
operations (on the real code, where the registry is a mutable global, this is what the
correspondence run checks bit for bit). -/
theorem registry_new_arrays (cfg : Cfg V) (ops : List (RegOp V)) (names : List String)
    (rows : List (List V)) (hne : names ≠ [])
    (hf : Fresh (applyOps cfg ⟨[]⟩ ops) names true)
    (hr : ∀ row ∈ rows, row.length = names.length) :
    (∃ lp, numpyArrayToLivePoints cfg (applyOps cfg ⟨[]⟩ ops) (.d2 names.length rows) names true = .ok lp
      ∧ lp.fields = names ++ ["logP", "logL", "it"] ++ (applyOps cfg ⟨[]⟩ ops).names)
    ∧ (applyOps cfg ⟨[]⟩ (ops ++ [.reset])).names = [] := by
  refine ⟨⟨_, array_to_live_points cfg _ names true rows hf hne hr, ?_⟩, ?_⟩
  · simp [canon, nsNames, nonSamplingNames, coreNames]
  · simp [applyOps, List.foldl_append, applyOp, reset, Registry.names]

/-- registering an already registered name changes nothing (its first default is kept) -/
theorem registry_add_existing_skipped (cfg : Cfg V) (r : Registry V) (p : String) (dv : V)
    (h : p ∈ r.names) : add cfg r [p] (some [dv]) = r := by
  simp [add, addOne, h]

/-- **The view is a window (read; lens law "get").**  For a well-formed array, the view on its first `k` fields
(`k` at most the number of leading float fields — in particular the model's parameters) shows,
for every point, exactly the values of those fields in field order. -/
theorem view_is_window_get (lp : LP V) (hw : lp.WF) (k : Nat) (hk : k ≤ lp.nf) :
    unstructuredView lp (lp.fields.take k) = .ok (lp.rows.map (·.take k))
    ∧ ∀ (i j : Nat) (f : String), (lp.fields.take k)[j]? = some f →
        ((lp.rows.map (List.take k))[i]?).bind (fun (row : List V) => row[j]?) = getField lp f i := by
  refine ⟨by rw [unstructuredView, viewWidth_prefix hw hk], fun i j f hf => ?_⟩
  have hjk : j < k := Nat.lt_of_not_le fun h => by rw [List.getElem?_take_eq_none h] at hf; cases hf
  have hfj : lp.fields[j]? = some f := (List.getElem?_take_of_lt hjk).symm.trans hf
  rw [getField_of_mem lp (List.mem_of_getElem? hfj), idxOf_of_getElem? hw.nodup hfj, List.getElem?_map]
  cases lp.rows[i]? with
  | none => rfl
  | some row => exact List.getElem?_take_of_lt hjk

/-- **The view is a window (write).**  Writing `v` at `[i, j]` through the view is the assignment
`x[field_j][i] = v` on the underlying array.  (These view theorems are the lens laws get / put /
frame.  In the model the view has no storage of its own, so "zero-copy" is not something a theorem
here could refute: that the real view shares memory with the array is established by the tie —
`np.shares_memory`, write-through and read-through on every generated case.) -/
theorem view_set_is_field_set (lp : LP V) (hw : lp.WF) (k : Nat) (hk : k ≤ lp.nf)
    (i j : Nat) (v : V) (hi : i < lp.rows.length) (hj : j < k) (f : String)
    (hf : lp.fields[j]? = some f) :
    viewSet lp (lp.fields.take k) i j v = .ok (setField lp f i v) := by
  rw [viewSet, viewWidth_prefix hw hk, setField, idxOf_of_getElem? hw.nodup hf]
  exact if_pos ⟨hi, hj⟩

/-- **…and touches nothing else.**  After the write, field `f` of point `i` reads `v`; every other
(field, point) pair, the field list and the number of points are unchanged. -/
theorem view_set_frame (lp : LP V) (hw : lp.WF) (f : String) (i : Nat) (v : V)
    (hf : f ∈ lp.fields) (hi : i < lp.rows.length) :
    getField (setField lp f i v) f i = some v
    ∧ (∀ f' i', f' ∈ lp.fields → (f' ≠ f ∨ i' ≠ i) →
        getField (setField lp f i v) f' i' = getField lp f' i')
    ∧ (setField lp f i v).fields = lp.fields
    ∧ (setField lp f i v).rows.length = lp.rows.length := by
  refine ⟨?_, fun f' i' hf' hne => ?_, rfl, List.length_modify ..⟩
  · have hlt : lp.fields.idxOf f < lp.rows[i].length := by
      rw [hw.rect _ (List.getElem_mem hi)]
      exact List.idxOf_lt_length_iff.2 hf
    rw [getField_setField lp f i v hf, List.getElem?_eq_getElem hi, Option.map_some, if_pos rfl, Option.bind_some,
      List.getElem?_set_self hlt]
  · rw [getField_setField lp f i v hf', getField_of_mem lp hf']
    cases lp.rows[i']? with
    | none => rfl
    | some row =>
      rw [Option.map_some, Option.bind_some, Option.bind_some]
      split
      · rename_i hii
        -- the same record: another field, at another position
        have hff : f' ≠ f := hne.resolve_right fun h => h hii.symm
        exact List.getElem?_set_ne fun e => hff (idxOf_inj_of_mem hf hf' e).symm
      · rfl

/-- reading the view after a write through it shows the written value in place (put–get) -/
theorem view_put_get (lp : LP V) (hw : lp.WF) (k : Nat) (hk : k ≤ lp.nf)
    (i j : Nat) (v : V) (hi : i < lp.rows.length) (hj : j < k) :
    ∃ lp', viewSet lp (lp.fields.take k) i j v = .ok lp'
      ∧ unstructuredView lp' (lp.fields.take k)
          = .ok ((lp.rows.map (·.take k)).modify i (·.set j v)) := by
  refine ⟨{ lp with rows := lp.rows.modify i (·.set j v) }, ?_, ?_⟩
  · rw [viewSet, viewWidth_prefix hw hk]
    exact if_pos ⟨hi, hj⟩
  · -- the width of a view depends on the fields only, which the write leaves alone
    have hwid : viewWidth { lp with rows := lp.rows.modify i (·.set j v) } (lp.fields.take k) = .ok k :=
      viewWidth_prefix hw hk
    rw [unstructuredView, hwid]
    exact congrArg Except.ok (map_modify (fun _ => List.take_set) lp.rows i)

/-- the parameters of every array the conversions build are viewable: for `lp = canon …`, the
view on `names` is exactly the parameter records that went in -/
theorem view_of_parameters (cfg : Cfg V) (r : Registry V) (names : List String) (nsp : Bool)
    (data : List (List V)) (hf : Fresh r names nsp) (hd : ∀ row ∈ data, row.length = names.length) :
    unstructuredView (canon cfg r names nsp data) names = .ok data := by
  have := (view_is_window_get _ (conversions_wf cfg r names nsp data hf hd) names.length (nfOf_le (r := r)).1).1
  rw [show (canon cfg r names nsp data).fields.take names.length = names from List.take_left' rfl] at this
  rw [this]
  show Except.ok ((data.map (· ++ tail cfg r nsp)).map (·.take names.length)) = _
  rw [List.map_map, List.map_congr_left (g := id), List.map_id]
  exact fun d hd' => List.take_left' (hd d hd')

/-- The view hypothesis "names = the leading fields IN FIELD ORDER" is needed: the real
`unstructured_view` ignores the order of `names` (columns always come back in field order), and
rejects any selection that is not the leading block or reaches the integer field `it`. -/
theorem view_is_window_fails_without :
    let lp : LP Int := ⟨["x", "y", "logP", "logL", "it"], 4, [[1, 2, 3, 4, 0]]⟩
    (unstructuredView lp ["y", "x"]).toOption = some [[1, 2]]
    ∧ (unstructuredView lp ["y"]).toOption = none
    ∧ (unstructuredView lp ["x", "logP"]).toOption = none
    ∧ (unstructuredView lp ["x", "y", "logP", "logL", "it"]).toOption = none := by decide +kernel

/-- a concrete state meeting the hypotheses of the theorems above: registry history with a
duplicate registration and a reset, two names, three points -/
example :
    let c : Cfg Int := { nan := -1, it0 := 0 }
    let r := applyOps c ⟨[]⟩ [.add ["z"] none, .reset, .add ["a", "b", "a"] (some [10, 20, 30]), .add ["c"] none]
    r.extras = [("a", 10), ("b", 20), ("c", -1)]
    ∧ Fresh r ["x", "y"] true
    ∧ (numpyArrayToLivePoints c r (.d2 2 [[1, 2], [3, 4], [5, 6]]) ["x", "y"] true).toOption
        = some ⟨["x", "y", "logP", "logL", "it", "a", "b", "c"], 4,
            [[1, 2, -1, -1, 0, 10, 20, -1], [3, 4, -1, -1, 0, 10, 20, -1], [5, 6, -1, -1, 0, 10, 20, -1]]⟩
    ∧ (dictToLivePoints c r [("x", .arr [1, 3, 5]), ("y", .arr [2, 4, 6])] true).toOption
        = (dataframeToLivePoints c r ["x", "y"] [[1, 2], [3, 4], [5, 6]] true).toOption
    ∧ (viewSet (canon c r ["x", "y"] true [[1, 2], [3, 4]]) ["x", "y"] 1 0 9).toOption
        = some (canon c r ["x", "y"] true [[1, 2], [9, 4]]) := by
  unfold Fresh; decide +kernel

/-- empty and single-point inputs, tuple, dictionary with zero points, field selection in a
different order, defaults read back by name -/
example :
    let c : Cfg Int := { nan := -1, it0 := 0 }
    let r : Registry Int := ⟨[("q", 7)]⟩
    (numpyArrayToLivePoints c r (.d1 []) ["x", "y"] true).toOption = some (canon c r ["x", "y"] true [])
    ∧ (numpyArrayToLivePoints c r (.d1 [4, 5]) ["x", "y"] true).toOption = some (canon c r ["x", "y"] true [[4, 5]])
    ∧ (parametersToLivePoint c r [4, 5] ["x", "y"] true).toOption = some (canon c r ["x", "y"] true [[4, 5]])
    ∧ (dictToLivePoints c r [("x", .arr []), ("y", .arr [])] true).toOption = some (canon c r ["x", "y"] true [])
    ∧ (dictToLivePoints c r [("x", .arr [4]), ("y", .arr [5])] true).toOption = some (canon c r ["x", "y"] true [[4, 5]])
    ∧ (dictToLivePoints c r [("x", .scalar 4), ("y", .scalar 5)] false).toOption = some ⟨["x", "y"], 2, [[4, 5]]⟩
    ∧ (livePointsToArray (canon c r ["x", "y"] true [[1, 2], [3, 4]]) (some ["q", "y", "x"])).toOption
        = some (3, [[7, 2, 1], [7, 4, 3]])
    ∧ (livePointsToDict (canon c r ["x", "y"] true [[1, 2], [3, 4]]) (some ["logP", "logL", "it", "q"])).toOption
        = some [("logP", [-1, -1]), ("logL", [-1, -1]), ("it", [0, 0]), ("q", [7, 7])] := by
  decide +kernel

example : (⟨["x", "y", "logP", "logL", "it"], 4, [[1, 2, 3, 4, 0]]⟩ : LP Int).WF :=
  ⟨by decide +kernel, by decide, by decide⟩

/-! ## every theorem with hypotheses, APPLIED to a concrete state

`exC`/`exR`: NaN token `-1`, one registered extra `q` with default 7; names `x, y`; a well-formed
five-field array `exLP` with two points. -/

def exC : Cfg Int := { nan := -1, it0 := 0 }
def exR : Registry Int := ⟨[("q", 7)]⟩
def exOps : List (RegOp Int) := [.add ["a", "b", "a"] (some [10, 20, 30]), .add ["c"] none]
def exLP : LP Int := ⟨["x", "y", "logP", "logL", "it"], 4, [[1, 2, 3, 4, 0], [5, 6, 7, 8, 0]]⟩
def exFresh : Fresh exR ["x", "y"] true := by unfold Fresh; decide +kernel
def exFreshF : Fresh exR ["x", "y"] false := by unfold Fresh; decide +kernel
def exWF : exLP.WF := ⟨by decide, by decide, by decide⟩
def exNoReset : ∀ op ∈ exOps, op.isReset = false := by
  intro op h
  simp only [exOps, List.mem_cons, List.not_mem_nil, or_false] at h
  rcases h with rfl | rfl <;> rfl

example := array_to_live_points exC exR ["x", "y"] true [[1, 2], [3, 4], [5, 6]] exFresh (by decide) (by decide)
example := array_to_live_points exC exR ["x", "y"] false [] exFreshF (by decide) (by decide)
example := array_1d_is_one_point exC exR ["x", "y"] true [1, 2] exFresh (by decide) rfl
example := array_empty exC exR ["x", "y"] true exFresh
example := array_roundtrip exC exR ["x", "y"] true [[1, 2]] exFresh (by decide) (by decide)
example := to_array_selects_fields exLP exWF ["logL", "x"] (by decide) (by decide) (by decide)
example := names_must_be_fresh exC exR ["x", "q"] true (.d2 2 [[1, 2]]) (by unfold Fresh; decide +kernel)
example := tuple_roundtrip exC exR ["x", "y"] true [4, 5] exFresh (by decide) rfl
example := tuple_empty exC exR ["x", "y"] false exFreshF
example := dict_scalars_to_live_point exC exR ["x", "y"] true [4, 5] exFresh (by decide) rfl
example := dict_arrays_to_live_points exC exR ["x", "y"] true [[1, 3, 5], [2, 4, 6]] 3 exFresh (by decide) rfl (by decide)
example := dict_arrays_to_live_points exC exR ["x", "y"] true [[1], [2]] 1 exFresh (by decide) rfl (by decide)
example := dict_roundtrip exC exR ["x", "y"] true [[], []] 0 exFresh (by decide) rfl (by decide)
example := dict_roundtrip exC exR ["x", "y"] true [[1], [2]] 1 exFresh (by decide) rfl (by decide)
example := live_points_dict_roundtrip exC exR ["x", "y"] true [[1, 2]] exFresh (by decide) (by decide)
example := live_points_dict_roundtrip_fails_without exC exR ["x", "y"] [[1, 2], [3, 4]] exFresh (by decide) (by decide)
example := live_points_dict_all_fields_roundtrip exC exR exLP exWF (by decide)
example := dict_length_one_sequences exC exR ["x", "y"] true [4, 5] exFresh (by decide) rfl
example := dict_scalar_then_sequence_rejected exC exR "x" "y" 1 [2, 3] [] true
example := dataframe_to_live_points exC exR ["x", "y"] true [[1, 2]] exFresh (by decide)
example := dataframe_eq_dict_eq_array exC exR ["x", "y"] true [[1, 2]] exFresh (by decide) (by decide)
example := defaults exC exR ["x", "y"] [[1, 2], [3, 4]] exFresh (by decide)
example := empty_structured exC exR 3 ["x", "y"] true exFresh (by decide)
example := conversions_wf exC exR ["x", "y"] true [[1, 2], [3, 4]] exFresh (by decide)
example := registry_history_after_reset exC exR [.add ["z"] none] exOps exNoReset
example := registry_history_no_reset exC exOps exNoReset
example := registry_history_cases (exOps ++ [.reset] ++ exOps)
example := registry_no_duplicates exC (exOps ++ [.reset] ++ exOps)
example := registry_new_arrays exC exOps ["x", "y"] [[1, 2]] (by decide) (by unfold Fresh; decide +kernel) (by decide)
example := registry_add_existing_skipped exC exR "q" 99 (by decide)
example := view_is_window_get exLP exWF 2 (by decide)
example := view_set_is_field_set exLP exWF 2 (by decide) 1 0 9 (by decide) (by decide) "x" rfl
example := view_set_frame exLP exWF "y" 1 9 (by decide) (by decide)
example := view_put_get exLP exWF 4 (by decide) 0 3 9 (by decide) (by decide)
example := view_of_parameters exC exR ["x", "y"] true [[1, 2], [3, 4]] exFresh (by decide)

/-- The generated fold carries names and defaults as two lists, the model's `addOne` one list of pairs. -/
theorem addFold_source_eq_model (r : Registry V) (l : List (String × V)) :
    l.foldl (fun (st : List String × List V) (pdv : String × V) =>
        if ¬ (st.1.contains pdv.1) then ((st.1 ++ [pdv.1]), (st.2 ++ [pdv.2])) else st) (r.names, r.defaults) =
      ((l.foldl addOne r).names, (l.foldl addOne r).defaults) := by
  induction l generalizing r with
  | nil => rfl
  | cons pd l ih =>
    rw [List.foldl_cons, List.foldl_cons, ← ih (addOne r pd)]
    congr 1
    -- one pass of the source loop is `addOne`
    by_cases h : r.names.contains pd.1 = true
    · rw [addOne, if_pos h]; exact if_neg (not_not_intro h)
    · rw [addOne, if_neg h]
      exact (if_pos h).trans (by simp [Registry.names, Registry.defaults])

/-- `Gen.LivePointTx.add_extra_parameters_to_live_points` is generated by `harness/c18_tx.py` from the current text of
`nessai.livepoint.add_extra_parameters_to_live_points` (the default of `default_values`, the loop over the zip, the guard and
the three appends, statement by statement).  Started from any registry state it produces exactly the names and defaults of
the model's `add` — so every registry theorem above (`registry_no_duplicates`, `registry_add_existing_skipped`,
`registry_new_arrays`, the history theorems) is about the source as it is now. -/
theorem add_extra_source_eq_model (cfg : Cfg V) (r : Registry V) (ps : List String) (dvs : Option (List V)) :
    Gen.LivePointTx.add_extra_parameters_to_live_points cfg.nan r.names r.defaults ps dvs =
      ((add cfg r ps dvs).names, (add cfg r ps dvs).defaults) := by
  unfold Gen.LivePointTx.add_extra_parameters_to_live_points add
  exact addFold_source_eq_model r _

/-- applied: an already registered name in front of a new one keeps the new one's OWN default (position, not count) -/
example : Gen.LivePointTx.add_extra_parameters_to_live_points (0 : Nat) ["a"] [7] ["a", "b"] (some [1, 2]) =
    (["a", "b"], [7, 2]) := by decide

end NessaiVerif.C18
