import NessaiVerif.Model.MetaProposal
import NessaiVerif.Proofs.Meta
import NessaiVerif.Proofs.PyDict
import NessaiVerif.Gen.MetaTx
/-
C03 — every INS sample carries the exact meta-proposal density and weight.
Linear-domain model (Model/MetaProposal.lean); `D id k` is the density of proposal `k-1`
(k = 0: the initial unit-cube prior draw, density 1) at the sample with identifier `id`.
Theorems hold for every field of characteristic zero (ℚ — the executable instance — and ℝ).

PARTIAL with respect to the property's wording: the clause "the stored per-proposal log-densities equal the saved
proposals re-evaluated at that sample" enters as the consistency hypothesis `IterOk` on the inputs of an iteration
(the densities are inputs of the model; that the real code stores exactly the re-evaluated densities is checked by
the trace replay and the oracle, not proved); "every sample lies in the unit hypercube" and "the stored log-likelihood
equals the model's value" are oracle-only; finalisation and checkpoint/resume do not change the bookkeeping in the
model and are covered by replaying real runs (resume mid-run and after finalisation) only.  `W = U / Q` and
`Q = mix w row` hold by definition of a stored sample; the content of the main theorem is that EVERY stored sample
— old and new, in both sets — is in that form under the CURRENT weights and rows after every iteration.
-/
namespace NessaiVerif.C03
open NessaiVerif.Meta

variable {K : Type} [Field K] [CharZero K] [DecidableEq K]

/-- States reachable by the sampler's bookkeeping: the initial population, then any number of
iterations whose inputs are consistent with the density table (new samples carry every proposal's
density, the new column is the new proposal's density at each stored sample, exactly `nAdd` samples
are drawn for each set). -/
inductive Reachable (D : Nat → Nat → K) : St K → Prop
  | pop (useIid : Bool) (tr ii : List (Nat × K)) (hne : tr ≠ [])
      (hsz : if useIid then tr.length = ii.length else ii = []) :
      Reachable D (populate useIid tr ii)
  | iter (s : St K) (hs : Reachable D s) (nAdd : Nat)
      (newT : List (Nat × K × List K)) (colT : List (Nat × K))
      (newI : List (Nat × K × List K)) (colI : List (Nat × K))
      (hin : IterOk D s nAdd newT colT newI colI) (s' : St K)
      (hok : iteration s (s.counts.length - 1) nAdd newT colT newI colI = .ok s') :
      Reachable D s'

/-- the initial population satisfies the invariant (the initial proposal has density 1 on the cube) -/
theorem populate_inv (D : Nat → Nat → K) (hD0 : ∀ id, D id 0 = 1) (useIid : Bool) (tr ii : List (Nat × K))
    (hne : tr ≠ []) (hsz : if useIid then tr.length = ii.length else ii = []) :
    MetaInv D (populate useIid tr ii) := by
  have hlen : tr.length ≠ 0 := fun h => hne (List.length_eq_zero_iff.mp h)
  have hK : ((tr.length : Nat) : K) ≠ 0 := Nat.cast_ne_zero.mpr hlen
  have hsample : ∀ l : List (Nat × K), ∀ m ∈ l.map (fun p => initSample p.1 p.2), SampleOk D [1] m := by
    intro l m hm
    obtain ⟨p, _, rfl⟩ := List.mem_map.mp hm
    exact ⟨by simp [initSample, rowOf, hD0], by simp [initSample, mix], rfl⟩
  exact
    { wlen := rfl
      total := by
        cases useIid
        · simp [populate, refSize]
        · simp [populate, refSize, ← (show tr.length = ii.length from hsz)]
      nonempty := by simpa [populate] using hlen
      weights := by simp [populate, div_self hK]
      train := hsample tr
      iid := hsample ii
      sizes := by rintro rfl; simpa [populate] using hsz
      noIid := by rintro rfl; simpa [populate] using hsz }

/-- At every iteration boundary (any number of iterations, any batch sizes, with or
without the independent set): every sample of the training set and of the independent set stores the density
of every proposal at that sample, its meta-proposal density is the mixture under the current weights, its
weight is `U / Q`; the weights are `count_k / total`. -/
theorem meta_invariant (D : Nat → Nat → K) (hD0 : ∀ id, D id 0 = 1) (s : St K) (h : Reachable D s) :
    MetaInv D s := by
  induction h with
  | pop useIid tr ii hne hsz => exact populate_inv D hD0 useIid tr ii hne hsz
  | iter s _ nAdd newT colT newI colI hin s' hok ih => exact (post_of_ok (iteration_ok ih hin) hok).1

/-- every stored sample, spelled out -/
theorem every_sample_exact (D : Nat → Nat → K) (hD0 : ∀ id, D id 0 = 1) (s : St K) (h : Reachable D s) :
    ∀ m ∈ s.train ++ s.iid,
      m.row = (List.range s.counts.length).map (D m.id) ∧ m.Q = mix s.weights m.row ∧ m.W = m.U / m.Q := by
  have hinv := meta_invariant D hD0 s h
  intro m hm
  have hok : SampleOk D s.weights m := by
    rcases List.mem_append.mp hm with hm | hm
    · exact hinv.train m hm
    · exact hinv.iid m hm
  exact ⟨by rw [hok.row, hinv.wlen]; rfl, hok.Q, hok.W⟩

/-- the mixture weights are the fraction of samples attributed to each proposal and sum to one -/
theorem weights_are_fractions (D : Nat → Nat → K) (hD0 : ∀ id, D id 0 = 1) (s : St K) (h : Reachable D s) :
    s.weights = s.counts.map (fun (c : Nat) => ((c : K) / ((refSize s : Nat) : K) : K)) ∧
    sumK s.weights = 1 ∧ s.counts.sum = refSize s := by
  have hinv := meta_invariant D hD0 s h
  refine ⟨by rw [hinv.weights, hinv.total], ?_, hinv.total⟩
  rw [hinv.weights]
  exact weights_sum_one s.counts hinv.nonempty

/-- iteration labels of a store that holds `counts[0]` samples of the initial proposal (label −1), then
`counts[1]` samples of proposal 0, … in the order they were added -/
def itsOf : List Nat → Int → List Int
  | [], _ => []
  | c :: cs, k => List.replicate c k ++ itsOf cs (k + 1)

omit [Field K] [CharZero K] [DecidableEq K] in
theorem itsOf_append (cs : List Nat) (n : Nat) (k : Int) :
    itsOf (cs ++ [n]) k = itsOf cs k ++ List.replicate n (k + cs.length) := by
  induction cs generalizing k with
  | nil => simp [itsOf]
  | cons c cs ih =>
    simp only [List.cons_append, itsOf, ih, List.append_assoc, List.length_cons]
    congr 3
    omega

/-- **The counts are the numbers of samples actually drawn from each proposal**: the training set (and the
independent set, when used) consists of exactly `counts[k]` samples labelled with proposal `k−1`, for every `k`.
Together with `weights_are_fractions`: each weight is the fraction of samples drawn from its proposal. -/
theorem samples_grouped_by_proposal (D : Nat → Nat → K) (hD0 : ∀ id, D id 0 = 1) (s : St K) (h : Reachable D s) :
    s.train.map (·.it) = itsOf s.counts (-1) ∧
    (s.useIid = true → s.iid.map (·.it) = itsOf s.counts (-1)) := by
  induction h with
  | pop useIid tr ii hne hsz =>
    have hit (l : List (Nat × K)) :
        (l.map (fun p => initSample p.1 p.2)).map (·.it) = itsOf [l.length] (-1) := by
      simp [itsOf, initSample, Function.comp_def]
    refine ⟨hit tr, fun hu => ?_⟩
    obtain rfl : useIid = true := hu
    have hsz : tr.length = ii.length := hsz
    exact (hit ii).trans (hsz ▸ rfl)
  | iter s hs nAdd newT colT newI colI hin s' hok ih =>
    have hinv := meta_invariant D hD0 s hs
    obtain ⟨-, hcounts, -, -, huse, hitT, hitI⟩ := post_of_ok (iteration_ok hinv hin) hok
    have hlen := hinv.length_ne_zero
    have hcast : ((s.counts.length - 1 : Nat) : Int) = -1 + (s.counts.length : Int) := by omega
    rw [hcounts, itsOf_append, ← hcast]
    constructor
    · rw [hitT, ih.1]
    · intro hu
      rw [huse] at hu
      rw [hitI hu, ih.2 hu]

/-- an iteration from a reachable state never raises when its inputs are consistent, and the training and
independent sets grow by exactly the number of samples drawn -/
theorem iteration_total (D : Nat → Nat → K) (hD0 : ∀ id, D id 0 = 1) (s : St K) (h : Reachable D s) (nAdd : Nat)
    (newT : List (Nat × K × List K)) (colT : List (Nat × K))
    (newI : List (Nat × K × List K)) (colI : List (Nat × K))
    (hin : IterOk D s nAdd newT colT newI colI) :
    ∃ s', iteration s (s.counts.length - 1) nAdd newT colT newI colI = .ok s' ∧
      s'.counts = s.counts ++ [nAdd] ∧ s'.train.length = s.train.length + nAdd ∧
      (s.useIid = true → s'.iid.length = s.iid.length + nAdd) := by
  obtain ⟨s', hok, -, h1, h2, h3, -⟩ := iteration_ok (meta_invariant D hD0 s h) hin
  exact ⟨s', hok, h1, h2, h3⟩

omit [CharZero K] [DecidableEq K] in
/-- with non-negative densities the meta-proposal density of a stored sample is at least `w₀·q₀ = w₀ > 0` -/
theorem Q_pos [LinearOrder K] [IsStrictOrderedRing K] (w0 : K) (ws : List K) (qs : List K)
    (hw0 : 0 < w0) (hws : ∀ x ∈ ws, 0 ≤ x) (hqs : ∀ x ∈ qs, 0 ≤ x) : 0 < mix (w0 :: ws) (1 :: qs) := by
  simp only [mix, mul_one]
  have := mix_nonneg ws qs hws hqs
  exact add_pos_of_pos_of_nonneg hw0 this

/-- the first proposal keeps the initial population's count: a reachable state has `counts = c₀ :: _` with `c₀ > 0` -/
theorem counts_head_pos (D : Nat → Nat → K) (hD0 : ∀ id, D id 0 = 1) (s : St K)
    (h : Reachable D s) : ∃ c0 rest, s.counts = c0 :: rest ∧ 0 < c0 := by
  induction h with
  | pop useIid tr ii hne hsz =>
    exact ⟨tr.length, [], rfl, List.length_pos_iff.mpr hne⟩
  | iter s hs nAdd newT colT newI colI hin s' hok ih =>
    obtain ⟨c0, rest, hc, hpos⟩ := ih
    obtain ⟨-, hcounts, -⟩ := post_of_ok (iteration_ok (meta_invariant D hD0 s hs) hin) hok
    exact ⟨c0, rest ++ [nAdd], by rw [hcounts, hc]; rfl, hpos⟩

/-- **The meta-proposal density of every stored sample is strictly positive** (so `log Q` is finite and
`W = U / Q` is a genuine quotient, not the totalised `x / 0 = 0`), for non-negative proposal densities:
`Q ≥ w₀ · q₀ = c₀ / total > 0` because the initial proposal has density 1 and a positive count. -/
theorem reachable_Q_pos [LinearOrder K] [IsStrictOrderedRing K] (D : Nat → Nat → K)
    (hD0 : ∀ id, D id 0 = 1) (hD : ∀ id k, 0 ≤ D id k) (s : St K) (h : Reachable D s) :
    ∀ m ∈ s.train ++ s.iid, 0 < m.Q := by
  have hinv := meta_invariant D hD0 s h
  obtain ⟨c0, rest, hc, hpos⟩ := counts_head_pos D hD0 s h
  have hw := hinv.weights
  have htot : (0 : K) < ((s.counts.sum : Nat) : K) := Nat.cast_pos.mpr (Nat.pos_of_ne_zero hinv.nonempty)
  rw [hc] at hw htot
  intro m hm
  obtain ⟨hrow, hQ, _⟩ := every_sample_exact D hD0 s h m hm
  rw [hQ, hw, hrow, hc, List.length_cons, List.range_succ_eq_map, List.map_cons, List.map_cons, hD0]
  exact Q_pos _ _ _ (div_pos (Nat.cast_pos.mpr hpos) htot)
    (fun x hx => by obtain ⟨c, _, rfl⟩ := List.mem_map.mp hx; exact div_nonneg (Nat.cast_nonneg c) htot.le)
    (fun x hx => by obtain ⟨k, _, rfl⟩ := List.mem_map.mp hx; exact hD _ _)

/-- a concrete run with the independent set, evaluated: population + two iterations return without error and
end with counts [2, 1, 2], weights 2/5, 1/5, 2/5 and five samples in each set -/
example :
    ((iteration (populate true [(1, (1 : Rat)), (2, 1)] [(11, 1), (12, 1)]) 0 1
        [(3, 1, [1, 2])] [(1, 3), (2, 1)] [(13, 1, [1, 1/2])] [(11, 1/2), (12, 2)]).toOption.bind
      (fun s => (iteration s 1 2
        [(4, 1, [1, 1, 3]), (5, 1, [1, 2, 1])] [(1, 1), (2, 1), (3, 2)]
        [(14, 1, [1, 1, 1]), (15, 1, [1, 3, 1/4])] [(11, 1), (12, 1), (13, 5)]).toOption)).map
      (fun s => (s.counts, s.weights, s.train.length, s.iid.length))
    = some ([2, 1, 2], [2/5, 1/5, 2/5], 5, 5) := by decide +kernel

/-- why old samples must be re-weighted: appending the new density column WITHOUT recomputing `Q`
leaves a stale meta-proposal density (concrete rational counter-example) -/
theorem meta_fails_if_not_recomputed :
    let w' : List Rat := [1/2, 1/2]
    let m : MS Rat := initSample 7 1                        -- stored with Q = 1 under weights [1]
    let stale : MS Rat := { m with row := m.row ++ [3] }     -- new column q₀(x) = 3, Q not recomputed
    stale.Q ≠ mix w' stale.row ∧ (upd w' (fun _ => 3) m).Q = mix w' (upd w' (fun _ => 3) m).row := by
  decide +kernel

/-- a concrete run without the independent set, evaluated: a two-sample population followed by one iteration
returns without error and ends with weights 1/2, 1/2 -/
example : (iteration (populate false [(1, (1 : Rat)), (2, 1)] []) 0 2
      [(3, 1, [1, 3/2]), (4, 1, [1, 1/2])] [(1, 2), (2, 1/2)] [] []).toOption.map (·.weights)
    = some [1/2, 1/2] := by decide +kernel

/-!
`Gen/MetaTx.lean` is produced by `harness/c03_tx.py` from the current text of
`ImportanceNestedSampler.add_new_proposal_weight`, `ImportanceFlowProposal.update_proposal_weights` and
`compute_meta_proposal_from_log_q` over Python dictionaries in insertion order (`Model/PyDict.lean`).  The dictionaries
`sample_counts` and `_weights` with keys `-1, 0, 1, …` are `PyDict.ofList (-1)` of the model's lists. -/

/-- the call that the set and the append branch of `counts'` in `add_new_proposal_weight_source_eq_model` both end in: the
weights dictionary computed from the updated counts, handed to `update_proposal_weights` -/
theorem update_weights_call (counts' : List Nat) (ws : List K) (n : Nat) (hlen : ws.length ≤ counts'.length) :
    Gen.MetaTx.update_proposal_weights (PyDict.ofList (-1) ws)
        ((PyDict.ofList (-1) counts').map (fun kv => (kv.1, (((kv.2 : Nat) : K) / ((n : Nat) : K)))))
    = if sumK (counts'.map (fun (c : Nat) => ((c : K) / (n : K)))) = 1
      then .ok (PyDict.ofList (-1) (counts'.map (fun (c : Nat) => ((c : K) / (n : K)))))
      else .error .runtimeErr := by
  rw [PyDict.map_ofList (fun (c : Nat) => ((c : K) / (n : K))), Gen.MetaTx.update_proposal_weights,
    PyDict.update_ofList _ _ _ (by rwa [List.length_map]), PyDict.values_ofList]
  exact ite_not ..

/-- `add_new_proposal_weight(j, nNew)` (with the `update_proposal_weights` call it ends in) is the model's
`addProposalWeight`, errors included, whenever proposal `j` is the next one or an already registered one
(`j + 1 ≤ counts.length`; a gap is outside this theorem: the correspondence covers it) and the proposal's `_weights`
holds at most the keys `-1 … j` (it does: `train` adds the key of the new level with a NaN placeholder). -/
theorem add_new_proposal_weight_source_eq_model (s : St K) (ws : List K) (j nNew : Nat)
    (hj : j + 1 ≤ s.counts.length) (hw : ws.length ≤ j + 2) :
    Gen.MetaTx.add_new_proposal_weight (PyDict.ofList (-1) s.counts) (PyDict.ofList (-1) ws) (refSize s) (j : Int) nNew
      = (addProposalWeight s j nNew).map (fun s' => (PyDict.ofList (-1) s'.counts, PyDict.ofList (-1) s'.weights)) := by
  have hk : (j : Int) = -1 + ((j + 1 : Nat) : Int) := by omega
  unfold Gen.MetaTx.add_new_proposal_weight addProposalWeight
  rw [hk, PyDict.has_ofList_add, PyDict.getD_ofList, PyDict.set_ofList hj, if_neg (Nat.not_lt.mpr hj)]
  simp only [Bool.and_eq_true, decide_eq_true_eq, bne_iff_ne]
  by_cases hreg : j + 1 < s.counts.length ∧ s.counts.getD (j + 1) 0 ≠ 0
  · rw [if_pos hreg, if_pos hreg]; rfl
  rw [if_neg hreg, if_neg hreg]
  have hlen : ws.length ≤ (if j + 1 < s.counts.length then s.counts.set (j + 1) nNew
      else s.counts ++ [nNew]).length := by split <;> simp <;> omega
  generalize (if j + 1 < s.counts.length then s.counts.set (j + 1) nNew else s.counts ++ [nNew]) = counts'
    at hlen ⊢
  rw [update_weights_call _ _ _ hlen]
  split_ifs <;> rfl

/-- `compute_meta_proposal_from_log_q`: the meta-proposal density of every stored row is `mix` under the current weights —
what `updateSample` / `newSample` store in `Q` -/
theorem meta_from_log_q_source_eq_model (w : List K) (rows : List (List K)) :
    Gen.MetaTx.compute_meta_proposal_from_log_q (PyDict.ofList (-1) w) rows = rows.map (mix w) := by
  simp [Gen.MetaTx.compute_meta_proposal_from_log_q]

/-- what the three re-weighting statements do to ONE stored sample when the new column entry is `q` -/
def updq (w : List K) (q : K) (m : MS K) : MS K :=
  { m with row := m.row ++ [q], Q := mix w (m.row ++ [q]), W := m.U / mix w (m.row ++ [q]) }

/-- the three list programs of `reweight_store` (the rows with the new column appended, `mix w` of those, `U / ·` of those)
are the three projections of ONE list, `zipWith (updq w)` -/
theorem reweight_core (w : List K) (ss : List (MS K)) (qs : List K) (hl : qs.length = ss.length) :
    (List.zipWith (fun row c => row ++ [c]) (ss.map (·.row)) qs,
     (List.zipWith (fun row c => row ++ [c]) (ss.map (·.row)) qs).map (mix w),
     List.zipWith (· / ·) (ss.map (·.U)) ((List.zipWith (fun row c => row ++ [c]) (ss.map (·.row)) qs).map (mix w)))
    = ((List.zipWith (updq w) qs ss).map (·.row), (List.zipWith (updq w) qs ss).map (·.Q),
       (List.zipWith (updq w) qs ss).map (·.W)) := by
  induction ss generalizing qs with
  | nil => simp
  | cons m ms ih =>
    cases qs with
    | nil => simp at hl
    | cons q qs =>
      have := ih qs (by simpa using hl)
      simp only [Prod.mk.injEq] at this ⊢
      obtain ⟨h1, h2, h3⟩ := this
      simp only [List.map_cons, List.zipWith_cons_cons, updq, ← h1, ← h2, ← h3, and_self]

/-- the re-weighting sequence of `add_and_update_points` (`update_log_q`, then `logQ`, then `logW = logU − logQ`), run on the
columns of a non-empty store whose rows lack exactly the current proposal's column, leaves in EVERY stored sample the row with the
new density `q·j` appended, `Q = mix w row` under the current weights and `W = U / Q` -/
theorem reweight_store_source_eq_model (w : List K) (ss : List (MS K)) (cq cj : List K)
    (hq : cq.length = ss.length) (hj : cj.length = ss.length) (hne : ss ≠ [])
    (hrow : ∀ m ∈ ss, m.row.length + 1 = w.length) :
    Gen.MetaTx.reweight_store (PyDict.ofList (-1) w) w.length (ss.map (·.row)) (ss.map (·.U)) cq cj
      = .ok ((List.zipWith (updq w) (List.zipWith (· * ·) cq cj) ss).map (·.row),
             (List.zipWith (updq w) (List.zipWith (· * ·) cq cj) ss).map (·.Q),
             (List.zipWith (updq w) (List.zipWith (· * ·) cq cj) ss).map (·.W)) := by
  have hg : (Gen.MetaTx.shape1 (ss.map (·.row)) == w.length) = false := by
    cases ss with
    | nil => exact absurd rfl hne
    | cons m ms =>
      have := hrow m (by simp)
      simp [Gen.MetaTx.shape1]; omega
  have hl : (List.zipWith (· * ·) cq cj).length = ss.length := by simp [hq, hj]
  unfold Gen.MetaTx.reweight_store Gen.MetaTx.update_log_q
  rw [hg]
  simp only [Bool.false_eq_true, if_false, Gen.MetaTx.compute_meta_proposal_from_log_q, PyDict.values_ofList]
  exact congrArg Except.ok (reweight_core w ss _ hl)

/-- when the new column lists `f id` in store order, `updq` entry by entry is `upd w f` on every sample; that `ss.map (upd w f)`
is what the model's `updateStore` returns is `updateStore_eq`, put together with this in the next theorem -/
theorem reweight_store_eq_updateStore (w : List K) (f : Nat → K) (ss : List (MS K)) :
    List.zipWith (updq w) (ss.map (fun m => f m.id)) ss = ss.map (upd w f) := by
  induction ss with
  | nil => rfl
  | cons m ms ih => simp [ih, updq, upd]

/-- composed: on a store whose new column is the density table's (`col` holds `f id` for every stored identifier, `cq · cj` lists the
same densities in store order) the source's re-weighting sequence returns the columns of what the model's `updateStore` returns —
the step `meta_invariant` is proved about -/
theorem reweight_store_source_eq_updateStore (w : List K) (f : Nat → K) (col : List (Nat × K)) (ss : List (MS K)) (cq cj : List K)
    (hq : cq.length = ss.length) (hj : cj.length = ss.length) (hne : ss ≠ [])
    (hcol : List.zipWith (· * ·) cq cj = ss.map (fun m => f m.id))
    (h : ∀ m ∈ ss, lookup col m.id = some (f m.id) ∧ m.row.length + 1 = w.length) :
    updateStore w col ss = .ok (ss.map (upd w f)) ∧
    Gen.MetaTx.reweight_store (PyDict.ofList (-1) w) w.length (ss.map (·.row)) (ss.map (·.U)) cq cj
      = .ok ((ss.map (upd w f)).map (·.row), (ss.map (upd w f)).map (·.Q), (ss.map (upd w f)).map (·.W)) := by
  refine ⟨updateStore_eq w col f ss h, ?_⟩
  rw [reweight_store_source_eq_model w ss cq cj hq hj hne (fun m hm => (h m hm).2), hcol, reweight_store_eq_updateStore]

/-- the error branch: a store whose rows already hold the current proposal's column is refused with `ValueError`
(the model's `updateSample` returns `valueErr` for such a row whatever the new entry: the `0` is arbitrary) -/
theorem reweight_store_source_already_updated (w : List K) (m : MS K) (ms : List (MS K)) (cq cj : List K)
    (hrow : m.row.length = w.length) :
    Gen.MetaTx.reweight_store (PyDict.ofList (-1) w) w.length ((m :: ms).map (·.row)) ((m :: ms).map (·.U)) cq cj
      = .error .valueErr ∧ updateSample w (0 : K) m = .error .valueErr := by
  constructor
  · simp [Gen.MetaTx.reweight_store, Gen.MetaTx.update_log_q, Gen.MetaTx.shape1, hrow]
  · simp [updateSample, hrow]

/-- non-vacuity: registering proposal 0 with 2 new samples on top of 2 initial ones gives weights 1/2, 1/2 -/
example : Gen.MetaTx.add_new_proposal_weight (PyDict.ofList (-1) [2]) (PyDict.ofList (-1) [(1 : Rat), 0]) 2 0 2
    = .ok ([(-1, 2), (0, 2)], [(-1, 1/2), (0, 1/2)]) := by decide +kernel

end NessaiVerif.C03
