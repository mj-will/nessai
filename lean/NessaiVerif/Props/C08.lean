import NessaiVerif.Proofs.FlowTrain
import NessaiVerif.Gen.FlowTrain
import NessaiVerif.Proofs.FlowReal
import NessaiVerif.Proofs.FlowLayers
/-
C08 — flow and proposal densities are consistent with their samples.

PARTIAL proof.  What is proved: the log-density bookkeeping of nessai's wrapper layers
(`NFlow`, `FlowModel`, `FlowProposal`, `ImportanceFlowModel`/`ImportanceFlowProposal`) attaches to a generated
point exactly the density the same layer computes forwards at that point, for every lawful transform
(inverse pair with opposite log-Jacobians), for any point/latent types and any additive commutative group of
log-densities; compositions (`CompositeTransform`) of lawful layers are lawful; affine coupling layers with
ARBITRARY conditioner functions, masked affine AUTOREGRESSIVE layers (MAF / MADE) in every dimension with arbitrary
conditioners of the strict prefix and the literal sweep-loop inverse, triangular affine maps and the LU linear layer,
elementwise affine layers and permutations are lawful — hence RealNVP stacks (coupling + permutation / LU + batch norm in
eval mode / actnorm) and MAF stacks (autoregressive + permutation + batch norm) of any depth.
Also proved (`train_tail_*`, at the end): the three closing operations of `FlowModel.train` — restore the best weights, finalise
the normalisation constant, save the weights — stand in the source in the only order that leaves model and file consistent.
The density theorems take POINTWISE round-trip hypotheses (`RoundTripAt`, at the generating latent point and at the
generated x'-point); they are discharged here for the layers above and for affine rescalings, while inversion, angle /
polar and logit reparameterisations enter only through the pointwise hypothesis (checked numerically by the harness).
NOT proved: that the density integrates to one, that `Σ log|s|` is the log-determinant of the derivative
(calculus), lawfulness of glasflow's rational-quadratic spline and SVD (Householder) layers, batch norm in training mode,
and all floating-point numerics — the harness checks those numerically on generated points.
-/
namespace NessaiVerif.C08
open NessaiVerif.Flow

variable {X Y Z L K : Type}

/-- Two lawful transforms in sequence form a lawful transform: the round trip returns the input and the
accumulated log-Jacobians are opposite. -/
theorem compose_lawful [AddCommGroup L] (t1 : Transform X Y L) (t2 : Transform Y Z L)
    (h1 : Lawful t1) (h2 : Lawful t2) : Lawful (t1.comp t2) := h1.comp h2

example : Lawful ((⟨fun x => (x + 3, 2), fun z => (z - 3, -2)⟩ : Transform ℤ ℤ ℤ).comp
    ⟨fun x => (-x, 5), fun z => (-z, -5)⟩) :=
  compose_lawful _ _ ⟨fun x => by simp, fun z => by simp⟩ ⟨fun x => by simp, fun z => by simp⟩

/-- **forward followed by inverse returns the input** for a stack of any number of lawful layers combined the
way `CompositeTransform` does (left-to-right cascade, inverses in reverse order, log-Jacobians summed from 0):
`inverse(forward(x)) = (x, -logJ)` and `forward(inverse(z)) = (z, -logJ)`. -/
theorem forward_inverse [AddCommGroup L] (ts : List (Transform X X L)) (h : ∀ t ∈ ts, Lawful t) :
    Lawful (composite ts) := by
  induction ts with
  | nil => exact ⟨fun _ => Prod.ext rfl neg_zero.symm, fun _ => Prod.ext rfl neg_zero.symm⟩
  | cons t ts ih =>
    rw [composite_cons]
    exact (h t List.mem_cons_self).comp (ih fun t' ht' => h t' (List.mem_cons_of_mem _ ht'))

example : Lawful (composite [(⟨fun x => (x + 3, 2), fun z => (z - 3, -2)⟩ : Transform ℤ ℤ ℤ),
    ⟨fun x => (-x, 5), fun z => (-z, -5)⟩]) := by
  apply forward_inverse
  intro t ht
  simp only [List.mem_cons, List.not_mem_nil, or_false] at ht
  rcases ht with rfl | rfl <;> exact ⟨fun x => by simp, fun z => by simp⟩

example : ((composite [(⟨fun x => (x + 3, 2), fun z => (z - 3, -2)⟩ : Transform ℤ ℤ ℤ),
    ⟨fun x => (-x, 5), fun z => (-z, -5)⟩]).fwd 4) = (-7, 7) := by decide

/-- An affine coupling layer `x₂ ↦ x₂ · s(x₁) + t(x₁)` with arbitrary conditioner functions `s ≠ 0`, `t`
(any mask, any dimension) is a lawful transform with log-Jacobian `Σ_{masked} lg (s i)`. -/
theorem coupling_lawful [Field K] [AddCommGroup L] {n : Nat} (lg : K → L) (m : Fin n → Bool)
    (s t : (Fin n → K) → Fin n → K) (hs : ∀ c i, m i = true → s c i ≠ 0) :
    Lawful (coupling lg m s t) := by
  constructor
  · intro x
    simp only [coupling, maskOut_update]
    congr 1
    funext i
    split
    · exact affine_undo (hs _ i ‹_›) _ _
    · rfl
  · intro y
    simp only [coupling, maskOut_update, neg_neg]
    congr 1
    funext i
    split
    · exact affine_redo (hs _ i ‹_›) _ _
    · rfl

example : Lawful (coupling (K := ℚ) (L := ℚ) (n := 2) (fun a => a) (fun i => i.val == 1)
    (fun c _ => c 0 * c 0 + 1) (fun c _ => c 0)) :=
  coupling_lawful _ _ _ _ fun c _ _ => mul_self_add_one_ne_zero (c 0)

/-- the non-vanishing scale is needed: with `s = 0` the layer collapses the masked feature and the inverse
does not return the input -/
theorem coupling_lawful_fails_without :
    ¬ Lawful (coupling (K := ℚ) (L := ℚ) (n := 1) (fun a => a) (fun _ => true) (fun _ _ => 0) (fun _ _ => 0)) :=
  fun h => absurd (congrFun (h.inv_fwd fun _ => 1) 0) (by decide +kernel)

/-- Elementwise affine layers (`ActNorm`, `BatchNorm` in eval mode) with non-zero scale are lawful. -/
theorem affine_lawful [Field K] [AddCommGroup L] {n : Nat} (lg : K → L) (a b : Fin n → K)
    (ha : ∀ i, a i ≠ 0) : Lawful (affine lg a b) :=
  -- `affine` is the coupling layer that transforms every feature, with constant conditioners
  coupling_lawful lg (fun _ => true) (fun _ => a) (fun _ => b) fun _ i _ => ha i

example : Lawful (affine (K := ℚ) (L := ℚ) (n := 2) (fun a => a) (fun _ => 2) (fun _ => -1)) :=
  affine_lawful _ _ _ (fun _ => by norm_num)

/-- Permutation layers are lawful with zero log-Jacobian. -/
theorem permutation_lawful [AddCommGroup L] {n : Nat} (σ σinv : Fin n → Fin n)
    (h1 : ∀ i, σ (σinv i) = i) (h2 : ∀ i, σinv (σ i) = i) :
    Lawful (permutation (K := K) (L := L) σ σinv) :=
  -- inside this namespace the bare name is this theorem (explicit `σ σinv`), here and further down; the lemma of
  -- `Proofs/FlowLayers` has to be written with its `Flow.`  Likewise `autoregressive_lawful`.
  Flow.permutation_lawful h1 h2

example : Lawful (permutation (K := ℚ) (L := ℚ) (n := 2) Fin.rev Fin.rev) :=
  permutation_lawful _ _ Fin.rev_rev Fin.rev_rev

/-- **Masked affine autoregressive layer (MAF / MADE), every dimension.**  `y i = x i · s i(x) + t i(x)` where `s i`,
`t i` are arbitrary functions of the strict prefix `x 0 … x (i-1)` and `s i ≠ 0`: the one-pass forward and the literal
inverse loop of `AutoregressiveTransform.inverse` (start from zeros, `n` sweeps `x ← (y - t(x)) / s(x)`, log|det| from the
last sweep's parameters) are mutual inverses with opposite log-Jacobians `± Σ lg (s i)`. -/
theorem autoregressive_lawful [Field K] [AddCommGroup L] {n : Nat} (lg : K → L) (s t : Fin n → (Fin n → K) → K)
    (hs : PrefixDep s) (ht : PrefixDep t) (hne : ∀ i x, s i x ≠ 0) : Lawful (autoregressive lg s t) :=
  Flow.autoregressive_lawful lg s t hs ht hne

/-- a 3-d autoregressive layer with genuinely point-dependent conditioners -/
def exARs : Fin 3 → (Fin 3 → ℚ) → ℚ := fun i x => if i.val = 0 then 2 else if i.val = 1 then x 0 * x 0 + 1 else 3
def exARt : Fin 3 → (Fin 3 → ℚ) → ℚ := fun i x => if i.val = 0 then 1 else if i.val = 1 then x 0 else x 0 * x 1

/- feature 0 reads nothing; the others read `x 0` (and `x 1` for the last shift), which lie in their strict prefix -/
theorem exARs_prefixDep : PrefixDep exARs := fun i x x' h => by
  unfold exARs
  by_cases h0 : i.val = 0
  · rw [if_pos h0, if_pos h0]
  · rw [h 0 (Nat.pos_of_ne_zero h0)]

theorem exARt_prefixDep : PrefixDep exARt := fun i x x' h => by
  unfold exARt
  by_cases h0 : i.val = 0
  · rw [if_pos h0, if_pos h0]
  · rw [h 0 (Nat.pos_of_ne_zero h0)]
    by_cases h1 : i.val = 1
    · rw [if_pos h1, if_pos h1]
    · rw [h 1 (by have : (1 : Fin 3).val = 1 := rfl; omega)]

theorem exARs_ne_zero (i : Fin 3) (x : Fin 3 → ℚ) : exARs i x ≠ 0 := by
  unfold exARs
  split
  · exact two_ne_zero
  · split
    · exact mul_self_add_one_ne_zero _
    · exact three_ne_zero

example : Lawful (autoregressive (L := ℚ) (fun a => a) exARs exARt) :=
  autoregressive_lawful _ _ _ exARs_prefixDep exARt_prefixDep exARs_ne_zero

example : ((autoregressive (L := ℚ) (fun a => a) exARs exARt).fwd ![1, 2, 3]).1 = ![3, 5, 11] ∧
    ((autoregressive (L := ℚ) (fun a => a) exARs exARt).inv ![3, 5, 11]).1 = ![1, 2, 3] := by
  decide +kernel

/-- the strict-prefix hypothesis is needed: a "conditioner" that looks at the feature it transforms gives a map the
sweep loop does not invert -/
theorem autoregressive_lawful_fails_without :
    ¬ Lawful (autoregressive (K := ℚ) (L := ℚ) (n := 1) (fun a => a) (fun _ x => x 0 + 1) (fun _ _ => 0)) :=
  fun h => absurd (congrFun (h.inv_fwd fun _ => 1) 0) (by decide +kernel)

/-- Lower-triangular affine map `y = M x + b` (`M` with non-zero diagonal `d` and strict part `A`) is lawful with
log-Jacobian `Σ lg (d i)`; it is the autoregressive layer with constant scales and affine shifts, and its inverse
loop is forward substitution.  (`triLower_fwd_eq`: the forward map is the matrix product.) -/
theorem triangular_lower_lawful [Field K] [AddCommGroup L] {n : Nat} (lg : K → L) (d : Fin n → K)
    (A : Fin n → Fin n → K) (b : Fin n → K) (hd : ∀ i, d i ≠ 0) :
    Lawful (triLower lg d A b) ∧
    ∀ x i, ((triLower lg d A b).fwd x).1 i = (∑ j, lowerMat d A i j * x j) + b i :=
  ⟨Flow.triLower_lawful lg d A b hd, triLower_fwd_eq lg d A b⟩

example : Lawful (triLower (K := ℚ) (L := ℚ) (n := 3) (fun a => a) (fun _ => 2) (fun i j => i.val + j.val) (fun _ => 1)) :=
  (triangular_lower_lawful _ _ _ _ (fun _ => by norm_num)).1

/-- Upper-triangular affine map (back substitution) is lawful and its forward map is the matrix product. -/
theorem triangular_upper_lawful [Field K] [AddCommGroup L] {n : Nat} (lg : K → L) (d : Fin n → K)
    (A : Fin n → Fin n → K) (b : Fin n → K) (hd : ∀ i, d i ≠ 0) :
    Lawful (triUpper lg d A b) ∧
    ∀ x i, ((triUpper lg d A b).fwd x).1 i = (∑ j, upperMat d A i j * x j) + b i :=
  ⟨Flow.triUpper_lawful lg d A b hd, triUpper_fwd_eq lg d A b⟩

example : Lawful (triUpper (K := ℚ) (L := ℚ) (n := 3) (fun a => a) (fun _ => 2) (fun i j => i.val + j.val) (fun _ => 1)) :=
  (triangular_upper_lawful _ _ _ _ (fun _ => by norm_num)).1

/-- **LU linear layer** (`LULinear`): `y = L (U x) + b` with unit-lower-triangular `L` and upper-triangular `U` with
non-zero diagonal `ud` is lawful with the log-Jacobian the code reports, `± Σ lg (ud i)`; the inverse is the two
triangular solves. -/
theorem lu_linear_lawful [Field K] [AddCommGroup L] {n : Nat} (lg : K → L) (Lo : Fin n → Fin n → K)
    (ud : Fin n → K) (Up : Fin n → Fin n → K) (b : Fin n → K) (hud : ∀ i, ud i ≠ 0) :
    Lawful (luLinear lg Lo ud Up b) ∧
    ∀ x i, ((luLinear lg Lo ud Up b).fwd x).1 i
      = (∑ j, lowerMat (fun _ => 1) Lo i j * (∑ k, upperMat ud Up j k * x k)) + b i :=
  ⟨Flow.luLinear_lawful lg Lo ud Up b hud, luLinear_fwd_eq lg Lo ud Up b⟩

example : Lawful (luLinear (K := ℚ) (L := ℚ) (n := 2) (fun a => a) (fun _ _ => 5) (fun _ => 3) (fun _ _ => 7) (fun _ => 1)) :=
  (lu_linear_lawful _ _ _ _ _ (fun _ => by norm_num)).1

/-- **Cached evaluation path of the LU layer** (`using_cache=True`, what nessai builds, used in eval mode): the forward
map is the product with the cached matrix `W = lower @ upper`, and every left inverse of it — in particular the cached
`y ↦ W⁻¹ (y - b)` — is the modelled inverse (the two triangular solves).  Same function, different evaluation order. -/
theorem lu_linear_cached_path_same_function [Field K] [AddCommGroup L] {n : Nat} (lg : K → L)
    (Lo : Fin n → Fin n → K) (ud : Fin n → K) (Up : Fin n → Fin n → K) (b : Fin n → K) (hud : ∀ i, ud i ≠ 0) :
    (∀ x i, ((luLinear lg Lo ud Up b).fwd x).1 i
      = (∑ k, (∑ j, lowerMat (fun _ => 1) Lo i j * upperMat ud Up j k) * x k) + b i) ∧
    (∀ g : (Fin n → K) → (Fin n → K), (∀ x, g ((luLinear lg Lo ud Up b).fwd x).1 = x) →
      ∀ y, g y = ((luLinear lg Lo ud Up b).inv y).1) :=
  ⟨luLinear_fwd_eq_cached lg Lo ud Up b, fun _ hg => (Flow.luLinear_lawful lg Lo ud Up b hud).left_inverse_unique hg⟩

example (x : Fin 2 → ℚ) (i : Fin 2) :
    ((luLinear (L := ℚ) (fun a => a) (fun _ _ => 5) (fun _ => 3) (fun _ _ => 7) (fun _ => 1)).fwd x).1 i
      = (∑ k, (∑ j, lowerMat (fun _ => 1) (fun _ _ => 5) i j * upperMat (fun _ => 3) (fun _ _ => 7) j k) * x k) + 1 :=
  (lu_linear_cached_path_same_function (fun a => a) _ _ _ _ (fun _ => by norm_num)).1 x i

/-- a zero on the diagonal of `U` makes the layer singular -/
theorem lu_linear_lawful_fails_without :
    ¬ Lawful (luLinear (K := ℚ) (L := ℚ) (n := 1) (fun a => a) (fun _ _ => 0) (fun _ => 0) (fun _ _ => 0) (fun _ => 0)) :=
  fun h => absurd (congrFun (h.inv_fwd fun _ => 1) 0) (by decide +kernel)

/-- Over ℝ with `lg = log|·|` the log-Jacobian a coupling layer reports is the logarithm of the absolute
multiplicative volume factor `|∏_{masked} s i|` of the map (exact statement in the field, no rounding). -/
theorem coupling_logJ_eq_log_volume_factor {n : Nat} (m : Fin n → Bool)
    (s t : (Fin n → ℝ) → Fin n → ℝ) (hs : ∀ c i, m i = true → s c i ≠ 0) (x : Fin n → ℝ) :
    ((coupling Real.log m s t).fwd x).2 = Real.log |scaleProd m (s (maskOut m x))| :=
  scaleLogSum_eq_log_scaleProd m _ (fun i hi => hs _ i hi)

example : ((coupling (n := 1) Real.log (fun _ => true) (fun _ _ => 2) (fun _ _ => 0)).fwd (fun _ => 1)).2
    = Real.log |scaleProd (n := 1) (fun _ => true) (fun _ => (2 : ℝ))| :=
  coupling_logJ_eq_log_volume_factor _ _ _ (fun _ _ _ => by norm_num) _

/-- Over ℝ the log-Jacobian of the autoregressive layer is `log |∏ s i|`, and that of the LU layer `log |∏ ud i|`
(the multiplicative volume factors, exact in the field). -/
theorem autoregressive_logJ_eq_log_volume_factor {n : Nat} (s t : Fin n → (Fin n → ℝ) → ℝ)
    (hne : ∀ i x, s i x ≠ 0) (x : Fin n → ℝ) (Lo Up : Fin n → Fin n → ℝ) (ud b : Fin n → ℝ) (hud : ∀ i, ud i ≠ 0) :
    ((autoregressive Real.log s t).fwd x).2 = Real.log |scaleProd (fun _ => true) (fun i => s i x)| ∧
    ((luLinear Real.log Lo ud Up b).fwd x).2 = Real.log |scaleProd (fun _ => true) ud| :=
  ⟨scaleLogSum_eq_log_scaleProd _ _ (fun i _ => hne i x), scaleLogSum_eq_log_scaleProd _ _ (fun i _ => hud i)⟩

example : ((luLinear (n := 1) Real.log (fun _ _ => 0) (fun _ => 2) (fun _ _ => 0) (fun _ => 0)).fwd (fun _ => 1)).2
    = Real.log |scaleProd (n := 1) (fun _ => true) (fun _ => (2 : ℝ))| :=
  (autoregressive_logJ_eq_log_volume_factor (fun _ _ => 1) (fun _ _ => 0) (fun _ _ => one_ne_zero) _ _ _ _ _
    (fun _ => by norm_num)).2

/-- `NFlow`: the log-density `sample_and_log_prob` returns with a sample equals `log_prob` of that sample, and
`forward_and_log_prob` of the sample returns the noise it was generated from with the same log-density. -/
theorem gen_density_eq_eval_density_nflow [AddCommGroup L] (f : NFlowM X Z L) (noise : Z)
    (h : RoundTripAt f.T noise) :
    f.logProb (f.sampleAndLogProb noise).1 = (f.sampleAndLogProb noise).2 ∧
    f.forwardAndLogProb (f.sampleAndLogProb noise).1 = (noise, (f.sampleAndLogProb noise).2) :=
  ⟨congrArg Prod.snd (f.forwardAndLogProb_sample h), f.forwardAndLogProb_sample h⟩

def exFlow : NFlowM ℤ ℤ ℤ := ⟨⟨fun x => (x + 3, 2), fun z => (z - 3, -2)⟩, fun z => -z⟩
theorem exFlow_lawful : Lawful exFlow.T := ⟨fun x => by simp [exFlow], fun z => by simp [exFlow]⟩

example : exFlow.logProb (exFlow.sampleAndLogProb 10).1 = (exFlow.sampleAndLogProb 10).2 :=
  (gen_density_eq_eval_density_nflow exFlow 10 (exFlow_lawful.roundTripAt 10)).1

/-- the round-trip hypothesis is needed: a transform whose inverse reports the log-Jacobian with the
wrong sign attaches a different density to the sample than `log_prob` computes for it -/
theorem gen_density_eq_eval_density_fails_without :
    ∃ f : NFlowM ℤ ℤ ℤ, ¬ RoundTripAt f.T 0 ∧ f.logProb (f.sampleAndLogProb 0).1 ≠ (f.sampleAndLogProb 0).2 :=
  ⟨⟨⟨fun x => (x, 1), fun z => (z, 1)⟩, fun _ => 0⟩, (by decide : ¬ ((0 : ℤ), (1 : ℤ)) = (0, -1)), by decide⟩

/-- `FlowModel.sample_and_log_prob` (no `z`, or supplied `z` with no alternative distribution): the returned
log-density equals `FlowModel.log_prob` at the returned sample, and `forward_and_log_prob` maps the sample back
to the latent point with that same log-density. -/
theorem gen_density_eq_eval_density_flowmodel [AddCommGroup L] (f : NFlowM X Z L)
    (noise : Z) (z : Option Z) (h : RoundTripAt f.T (z.getD noise)) :
    fmLogProb f (fmSampleAndLogProb f noise z none).1 = (fmSampleAndLogProb f noise z none).2 ∧
    fmForwardAndLogProb f (fmSampleAndLogProb f noise z none).1
      = (z.getD noise, (fmSampleAndLogProb f noise z none).2) := by
  -- with or without a supplied `z` this is the flow's own `sample_and_log_prob`, at `z.getD noise`
  cases z <;> exact gen_density_eq_eval_density_nflow f _ h

example : fmLogProb exFlow (fmSampleAndLogProb exFlow 0 (some 7) none).1
    = (fmSampleAndLogProb exFlow 0 (some 7) none).2 :=
  (gen_density_eq_eval_density_flowmodel exFlow 0 (some 7) (exFlow_lawful.roundTripAt 7)).1

/-- With an alternative latent distribution the base term of the returned density is THAT distribution's
log-density at `z` (not the flow's base density): the result is `alt z` plus the flow's log-Jacobian term
`log_prob(x) - base(z)`; it coincides with the flow density exactly when `alt z = base z`. -/
theorem flowmodel_alt_dist_uses_that_density [AddCommGroup L] (f : NFlowM X Z L)
    (noise z : Z) (alt : Z → L) (h : RoundTripAt f.T z) :
    (fmSampleAndLogProb f noise (some z) (some alt)).1 = (fmSampleAndLogProb f noise (some z) none).1 ∧
    (fmSampleAndLogProb f noise (some z) (some alt)).2
      = alt z + (fmLogProb f (fmSampleAndLogProb f noise (some z) (some alt)).1 - f.base z) := by
  rw [fmSampleAndLogProb_alt]
  exact ⟨rfl, by rw [← (gen_density_eq_eval_density_nflow f z h).1]; rfl⟩

example : (fmSampleAndLogProb exFlow 0 (some 7) (some fun _ => 100)).2
    = 100 + (fmLogProb exFlow (fmSampleAndLogProb exFlow 0 (some 7) (some fun _ => 100)).1 - exFlow.base 7) :=
  (flowmodel_alt_dist_uses_that_density exFlow 0 7 (fun _ => 100) (exFlow_lawful.roundTripAt 7)).2

/-- `FlowProposal`: the density `backward_pass` attaches to the physical-space point it generates from `z`
(flow density minus the inverse-rescaling log-Jacobian) equals the density `forward_pass` computes at that
point (flow density plus the rescaling log-Jacobian), and `forward_pass` returns `z`; with and without rescaling.
Hypotheses, both pointwise: the flow round-trips at `z`; when rescaling is on, the reparameterisation round-trips at
the generated x'-point `(f.T.inv z).1` (inverse-rescaled point maps forward to it with the opposite log-Jacobian). -/
theorem gen_density_eq_eval_density_flowproposal [AddCommGroup L] (f : NFlowM X Z L) (R : Transform X X L)
    (rescale : Bool) (z : Z) (hT : RoundTripAt f.T z)
    (hR : rescale = true → RoundTripAt R (f.T.inv z).1) :
    fpForwardPass f R rescale (fpBackwardPass f R none rescale z).1
      = (z, (fpBackwardPass f R none rescale z).2) := by
  cases rescale with
  | false =>
    rw [fpForwardPass_false]
    exact f.forwardAndLogProb_sample hT
  | true =>
    rw [fpForwardPass_true, fpBackwardPass_true]
    exact NFlowM.forwardAndLogProb_sample _ (hT.comp (hR rfl))

/-- **An affine rescaling satisfies the pointwise hypothesis everywhere.**  `x' i = x i · a i + b i` with `a i ≠ 0`
(rescale-to-bounds without inversion, z-score, scale, null): at every x'-point the inverse-rescaled point maps forward
to it with the opposite log-Jacobian. -/
theorem affine_rescaling_round_trip [Field K] [AddCommGroup L] {n : Nat} (lg : K → L) (a b : Fin n → K)
    (ha : ∀ i, a i ≠ 0) (x' : Fin n → K) : RoundTripAt (affine lg a b) x' :=
  (affine_lawful lg a b ha).roundTripAt x'

/-- a concrete 2-d flow (one coupling layer with a quadratic conditioner) and a concrete affine rescaling
(`x' = 2 x - 1`, the map of [0,1]² onto [-1,1]²) over ℚ -/
def exFlow2 : NFlowM (Fin 2 → ℚ) (Fin 2 → ℚ) ℚ :=
  ⟨coupling (fun a => a) (fun i => i.val == 1) (fun c _ => c 0 * c 0 + 1) (fun c _ => c 0), fun z => -(z 0 + z 1)⟩
def exAffineR : Transform (Fin 2 → ℚ) (Fin 2 → ℚ) ℚ := affine (fun a => a) (fun _ => 2) (fun _ => -1)
theorem exFlow2_lawful : Lawful exFlow2.T :=
  coupling_lawful (K := ℚ) (L := ℚ) (n := 2) (fun a => a) (fun i => i.val == 1) (fun c _ => c 0 * c 0 + 1)
    (fun c _ => c 0) fun c _ _ => mul_self_add_one_ne_zero (c 0)

theorem exAffineR_roundTripAt (x' : Fin 2 → ℚ) : RoundTripAt exAffineR x' :=
  affine_rescaling_round_trip _ _ _ (fun _ => by norm_num) x'

example (rescale : Bool) (z : Fin 2 → ℚ) :
    fpForwardPass exFlow2 exAffineR rescale (fpBackwardPass exFlow2 exAffineR none rescale z).1
      = (z, (fpBackwardPass exFlow2 exAffineR none rescale z).2) :=
  gen_density_eq_eval_density_flowproposal exFlow2 exAffineR rescale z (exFlow2_lawful.roundTripAt z)
    (fun _ => exAffineR_roundTripAt _)

def exR : Transform ℤ ℤ ℤ := ⟨fun x => (x - 1, 4), fun x' => (x' + 1, -4)⟩
theorem exR_lawful : Lawful exR := ⟨fun x => by simp [exR], fun z => by simp [exR]⟩

example : fpForwardPass exFlow exR true (fpBackwardPass exFlow exR none true 7).1
    = (7, (fpBackwardPass exFlow exR none true 7).2) :=
  gen_density_eq_eval_density_flowproposal exFlow exR true 7 (exFlow_lawful.roundTripAt 7)
    (fun _ => exR_lawful.roundTripAt _)

/-- the pointwise hypothesis on the reparameterisation is needed, and it is exactly what fails for a folding
(inversion-like) map at a point on the folded side: with `x' = |x|` the prime point `-1` is generated but never reached
forwards, and the attached density is not the forward density. -/
theorem gen_density_eq_eval_density_flowproposal_fails_without :
    ∃ R : Transform ℤ ℤ ℤ, ¬ RoundTripAt R (exFlow.T.inv 2).1 ∧
      fpForwardPass exFlow R true (fpBackwardPass exFlow R none true 2).1 ≠ (2, (fpBackwardPass exFlow R none true 2).2) :=
  ⟨⟨fun x => (x.natAbs, 0), fun x' => (x', 0)⟩, by unfold RoundTripAt; decide, by decide⟩

/-- `FlowProposal` with an alternative latent distribution (`latent_prior = uniform_nball`): the density attached
by `backward_pass` is the forward density with the flow's base term replaced by the alternative density at `z`
(same pointwise hypotheses). -/
theorem flowproposal_alt_dist_uses_that_density [AddCommGroup L] (f : NFlowM X Z L) (R : Transform X X L)
    (rescale : Bool) (z : Z) (alt : Z → L) (hT : RoundTripAt f.T z)
    (hR : rescale = true → RoundTripAt R (f.T.inv z).1) :
    (fpForwardPass f R rescale (fpBackwardPass f R (some alt) rescale z).1).1 = z ∧
    (fpBackwardPass f R (some alt) rescale z).2
      = alt z + ((fpForwardPass f R rescale (fpBackwardPass f R (some alt) rescale z).1).2 - f.base z) := by
  rw [fpBackwardPass_alt, gen_density_eq_eval_density_flowproposal f R rescale z hT hR]
  exact ⟨rfl, rfl⟩

example (z : Fin 2 → ℚ) (alt : (Fin 2 → ℚ) → ℚ) :
    (fpForwardPass exFlow2 exAffineR true (fpBackwardPass exFlow2 exAffineR (some alt) true z).1).1 = z :=
  (flowproposal_alt_dist_uses_that_density exFlow2 exAffineR true z alt (exFlow2_lawful.roundTripAt z)
    (fun _ => exAffineR_roundTripAt _)).1

/-- `ImportanceFlowProposal.draw`: the `log_q` row attached to a drawn physical point (computed at the generated
`x'` with the Jacobian of the re-rescaled point) equals the row `compute_meta_proposal_samples` computes when
the same physical point is passed forwards — provided the reparameterisation round-trips at the generated `x'`
(pointwise) and clipping leaves the inverse-rescaled point unchanged. -/
theorem gen_density_eq_eval_density_importance [AddCommGroup L] (fs : List (NFlowM X Z L)) (R : Transform X X L)
    (clip : X → X) (i : Nat) (noise : Z) (x : X) (row : List L)
    (hR : ∀ fi, fs[i]? = some fi → RoundTripAt R (fi.sample noise))
    (hclip : ∀ fi, fs[i]? = some fi → clip (R.inv (fi.sample noise)).1 = (R.inv (fi.sample noise)).1)
    (h : ifpDraw fs R clip i noise = some (x, row)) : row = ifpMetaRow fs R x := by
  obtain ⟨fi, hi, rfl, rfl⟩ := ifpDraw_eq_some.1 h
  rw [hclip fi hi, ifpMetaRow, (hR fi hi).eq]

example (noise : Fin 2 → ℚ) (x : Fin 2 → ℚ) (row : List ℚ)
    (h : ifpDraw [exFlow2, exFlow2] exAffineR id 1 noise = some (x, row)) :
    row = ifpMetaRow [exFlow2, exFlow2] exAffineR x :=
  gen_density_eq_eval_density_importance _ _ id 1 noise x row
    (fun _ _ => exAffineR_roundTripAt _) (fun _ _ => rfl) h

example : ifpDraw [exFlow] exR id 0 7 = some (5, [0, -1]) ∧ ifpMetaRow [exFlow] exR 5 = [0, -1] := by decide

/-- clipping that moves the generated point breaks the statement: the row still belongs to the unclipped `x'`
(this is what `clip=True` does for samples outside the unit hypercube when no logit is applied) -/
theorem gen_density_eq_eval_density_importance_fails_without :
    ∃ clip : ℤ → ℤ, ∃ x row, ifpDraw [exFlow] exR clip 0 7 = some (x, row) ∧ row ≠ ifpMetaRow [exFlow] exR x :=
  ⟨fun _ => 0, 0, [0, -1], by decide, by decide⟩

/-- the column of flow `i` in the row attached by `draw` is the generation-direction density of the drawn
point: base density of the noise minus the flow's inverse log-Jacobian minus the inverse-rescaling
log-Jacobian (what `sample_and_log_prob` followed by `log_prob -= log_j_inv` gives); pointwise hypotheses. -/
theorem importance_draw_column_is_generation_density [AddCommGroup L] (fs : List (NFlowM X Z L))
    (R : Transform X X L) (clip : X → X) (i : Nat) (noise : Z) (x : X) (row : List L) (fi : NFlowM X Z L)
    (hi : fs[i]? = some fi) (hT : RoundTripAt fi.T noise) (hR : RoundTripAt R (fi.sample noise))
    (hclip : clip (R.inv (fi.sample noise)).1 = (R.inv (fi.sample noise)).1)
    (h : ifpDraw fs R clip i noise = some (x, row)) :
    row[i + 1]? = some ((fi.sampleAndLogProb noise).2 - (R.inv (fi.sampleAndLogProb noise).1).2) := by
  obtain ⟨fi', hi', -, rfl⟩ := ifpDraw_eq_some.1 h
  cases hi.symm.trans hi'
  -- the column is `log_prob` of flow `i` at the generated x' plus the log-Jacobian of the re-rescaled point
  rw [hclip, hR.eq, ifpLogQRow_getElem?_succ, ifmLogProbIth, hi, sub_eq_add_neg,
    ← (gen_density_eq_eval_density_nflow fi noise hT).1]
  rfl

example : (([0, -1] : List ℤ))[0 + 1]? = some ((exFlow.sampleAndLogProb 7).2 - (exR.inv (exFlow.sampleAndLogProb 7).1).2) :=
  importance_draw_column_is_generation_density [exFlow] exR id 0 7 5 [0, -1] exFlow rfl (exFlow_lawful.roundTripAt 7)
    (exR_lawful.roundTripAt _) rfl (by decide)

/-- **Densities stored at draw time and extended later agree with the enlarged proposal.**  A point drawn when the
proposal holds the flows `fs` carries a row of `|fs|+1` columns; after a new flow `g` has been trained,
`update_log_q` (level `|fs|`) turns that stored row into exactly the row `compute_meta_proposal_samples` computes for
the same physical point under the enlarged list `fs ++ [g]`. -/
theorem importance_update_after_draw_is_forward_row [AddCommGroup L] (fs : List (NFlowM X Z L)) (g : NFlowM X Z L)
    (R : Transform X X L) (clip : X → X) (i : Nat) (noise : Z) (x : X) (row : List L)
    (hR : ∀ fi, fs[i]? = some fi → RoundTripAt R (fi.sample noise))
    (hclip : ∀ fi, fs[i]? = some fi → clip (R.inv (fi.sample noise)).1 = (R.inv (fi.sample noise)).1)
    (h : ifpDraw fs R clip i noise = some (x, row)) :
    ifpUpdateLogQ (fs ++ [g]) R fs.length x row = some (ifpMetaRow (fs ++ [g]) R x) := by
  obtain rfl := gen_density_eq_eval_density_importance fs R clip i noise x row hR hclip h
  -- entry `|fs|` of `fs ++ [g]` is `g`, and `log_prob_all` over `fs ++ [g]` is that over `fs` with `g`'s column appended
  simp [ifpUpdateLogQ, ifmLogProbIth, ifpMetaRow, ifpLogQRow, ifmLogProbAll]

example : ifpUpdateLogQ ([exFlow] ++ [exFlow]) exR 1 5 [0, -1] = some (ifpMetaRow ([exFlow] ++ [exFlow]) exR 5) :=
  importance_update_after_draw_is_forward_row [exFlow] exFlow exR id 0 7 5 [0, -1]
    (fun _ _ => exR_lawful.roundTripAt _) (fun _ _ => rfl) (by decide)

/-- the layers whose lawfulness is proved here (for any conditioner functions) -/
inductive Builtin [Field K] [AddCommGroup L] {n : Nat} (lg : K → L) : Transform (Fin n → K) (Fin n → K) L → Prop
  | coupling (m : Fin n → Bool) (s t : (Fin n → K) → Fin n → K) (hs : ∀ c i, m i = true → s c i ≠ 0) :
      Builtin lg (coupling lg m s t)
  | affine (a b : Fin n → K) (ha : ∀ i, a i ≠ 0) : Builtin lg (affine lg a b)
  | permutation (σ σinv : Fin n → Fin n) (h1 : ∀ i, σ (σinv i) = i) (h2 : ∀ i, σinv (σ i) = i) :
      Builtin lg (permutation σ σinv)
  | autoregressive (s t : Fin n → (Fin n → K) → K) (hs : PrefixDep s) (ht : PrefixDep t) (hne : ∀ i x, s i x ≠ 0) :
      Builtin lg (autoregressive lg s t)
  | lu (Lo : Fin n → Fin n → K) (ud : Fin n → K) (Up : Fin n → Fin n → K) (b : Fin n → K) (hud : ∀ i, ud i ≠ 0) :
      Builtin lg (luLinear lg Lo ud Up b)

theorem builtin_lawful [Field K] [AddCommGroup L] {n : Nat} (lg : K → L)
    (t : Transform (Fin n → K) (Fin n → K) L) (h : Builtin lg t) : Lawful t := by
  cases h with
  | coupling m s t hs => exact coupling_lawful lg m s t hs
  | affine a b ha => exact affine_lawful lg a b ha
  | permutation σ σinv h1 h2 => exact permutation_lawful σ σinv h1 h2
  | autoregressive s t hs ht hne => exact autoregressive_lawful lg s t hs ht hne
  | lu Lo ud Up b hud => exact (lu_linear_lawful lg Lo ud Up b hud).1

example : Lawful (permutation (K := ℚ) (L := ℚ) (n := 2) Fin.rev Fin.rev) :=
  builtin_lawful (fun a => a) _ (Builtin.permutation _ _ Fin.rev_rev Fin.rev_rev)

/-- one block of nessai's `RealNVP`: optional actnorm, optional linear transform (a permutation, optionally followed
by an LU layer), the affine coupling, optional batch norm (eval mode) -/
structure RealNVPBlock (n : Nat) (K : Type) where
  actnorm : Option ((Fin n → K) × (Fin n → K))
  perm : Option ((Fin n → Fin n) × (Fin n → Fin n))
  lu : Option ((Fin n → Fin n → K) × (Fin n → K) × (Fin n → Fin n → K) × (Fin n → K))
  mask : Fin n → Bool
  s : (Fin n → K) → Fin n → K
  t : (Fin n → K) → Fin n → K
  batchnorm : Option ((Fin n → K) × (Fin n → K))

/-- the layers of a RealNVP block, in the order the constructor appends them -/
def RealNVPBlock.layers [Field K] [AddCommGroup L] {n : Nat} (lg : K → L) (B : RealNVPBlock n K) :
    List (Transform (Fin n → K) (Fin n → K) L) :=
  (B.actnorm.map fun p => affine lg p.1 p.2).toList ++ (B.perm.map fun p => permutation p.1 p.2).toList ++
  (B.lu.map fun p => luLinear lg p.1 p.2.1 p.2.2.1 p.2.2.2).toList ++ [coupling lg B.mask B.s B.t] ++
  (B.batchnorm.map fun p => affine lg p.1 p.2).toList

/-- scales are non-zero and the permutation is one -/
def RealNVPBlock.Valid [Field K] {n : Nat} (B : RealNVPBlock n K) : Prop :=
  (∀ p, B.actnorm = some p → ∀ i, p.1 i ≠ 0) ∧
  (∀ p, B.perm = some p → (∀ i, p.1 (p.2 i) = i) ∧ (∀ i, p.2 (p.1 i) = i)) ∧
  (∀ p, B.lu = some p → ∀ i, p.2.1 i ≠ 0) ∧
  (∀ c i, B.mask i = true → B.s c i ≠ 0) ∧
  (∀ p, B.batchnorm = some p → ∀ i, p.1 i ≠ 0)

/-- **RealNVP stacks of any depth are lawful** (coupling layers with arbitrary conditioners, `linear_transform` ∈
{None, permutation, lu}, with or without actnorm / batch norm in eval mode; `pre_transform = batch_norm` is one more
affine layer in front). -/
theorem realnvp_stack_lawful [Field K] [AddCommGroup L] {n : Nat} (lg : K → L)
    (pre : Option ((Fin n → K) × (Fin n → K))) (hpre : ∀ p, pre = some p → ∀ i, p.1 i ≠ 0)
    (blocks : List (RealNVPBlock n K)) (hv : ∀ B ∈ blocks, B.Valid) :
    Lawful (composite ((pre.map fun p => affine lg p.1 p.2).toList ++ blocks.flatMap (·.layers lg))) := by
  apply forward_inverse
  intro t ht
  apply builtin_lawful lg
  simp only [List.mem_append, Option.mem_toList, Option.map_eq_some_iff, List.mem_flatMap] at ht
  rcases ht with ⟨p, hp, rfl⟩ | ⟨B, hB, ht⟩
  · exact Builtin.affine _ _ (hpre p hp)
  · obtain ⟨h1, h2, h3, h4, h5⟩ := hv B hB
    simp only [RealNVPBlock.layers, List.mem_append, Option.mem_toList, Option.map_eq_some_iff, List.mem_singleton] at ht
    rcases ht with (((⟨p, hp, rfl⟩ | ⟨p, hp, rfl⟩) | ⟨p, hp, rfl⟩) | rfl) | ⟨p, hp, rfl⟩
    · exact Builtin.affine _ _ (h1 p hp)
    · exact Builtin.permutation _ _ (h2 p hp).1 (h2 p hp).2
    · exact Builtin.lu _ _ _ _ (h3 p hp)
    · exact Builtin.coupling _ _ _ h4
    · exact Builtin.affine _ _ (h5 p hp)

/-- a concrete RealNVP block: reverse permutation, LU layer, quadratic-conditioner coupling, batch norm -/
def exRealNVPBlock : RealNVPBlock 2 ℚ :=
  ⟨none, some (Fin.rev, Fin.rev), some (fun _ _ => 5, fun _ => 3, fun _ _ => 7, fun _ => 1), fun i => i.val == 1,
    fun c _ => c 0 * c 0 + 1, fun c _ => c 0, some (fun _ => 2, fun _ => 0)⟩
theorem exRealNVPBlock_valid : exRealNVPBlock.Valid := by
  refine ⟨by simp [exRealNVPBlock], ?_, ?_, fun c _ _ => mul_self_add_one_ne_zero (c 0), ?_⟩
  · rintro _ ⟨⟩
    exact ⟨Fin.rev_rev, Fin.rev_rev⟩
  · rintro _ ⟨⟩ _
    norm_num
  · rintro _ ⟨⟩ _
    norm_num

example : Lawful (composite (L := ℚ)
    (((some (fun _ => 3, fun _ => 1) : Option ((Fin 2 → ℚ) × (Fin 2 → ℚ))).map
        fun p => affine (fun a => a) p.1 p.2).toList
      ++ [exRealNVPBlock, exRealNVPBlock, exRealNVPBlock].flatMap (·.layers (fun a => a)))) :=
  realnvp_stack_lawful (fun a => a) _ (fun p hp i => by cases hp; norm_num) _ (by simp [exRealNVPBlock_valid])

/-- one block of nessai's `MaskedAutoregressiveFlow`: a permutation (reverse or random), the masked affine
autoregressive transform, optional batch norm (eval mode) -/
structure MAFBlock (n : Nat) (K : Type) where
  σ : Fin n → Fin n
  σinv : Fin n → Fin n
  s : Fin n → (Fin n → K) → K
  t : Fin n → (Fin n → K) → K
  batchnorm : Option ((Fin n → K) × (Fin n → K))

/-- the layers of a MAF block, in the order the constructor appends them -/
def MAFBlock.layers [Field K] [AddCommGroup L] {n : Nat} (lg : K → L) (B : MAFBlock n K) :
    List (Transform (Fin n → K) (Fin n → K) L) :=
  [permutation B.σ B.σinv, autoregressive lg B.s B.t] ++ (B.batchnorm.map fun p => affine lg p.1 p.2).toList

/-- the permutation is one, the conditioners look at the strict prefix only, scales are non-zero -/
def MAFBlock.Valid [Field K] {n : Nat} (B : MAFBlock n K) : Prop :=
  (∀ i, B.σ (B.σinv i) = i) ∧ (∀ i, B.σinv (B.σ i) = i) ∧ PrefixDep B.s ∧ PrefixDep B.t ∧ (∀ i x, B.s i x ≠ 0) ∧
  (∀ p, B.batchnorm = some p → ∀ i, p.1 i ≠ 0)

/-- **MAF stacks of any depth are lawful** (permutation + masked affine autoregressive layer with arbitrary
strict-prefix conditioners + optional batch norm in eval mode, repeated). -/
theorem maf_stack_lawful [Field K] [AddCommGroup L] {n : Nat} (lg : K → L)
    (blocks : List (MAFBlock n K)) (hv : ∀ B ∈ blocks, B.Valid) :
    Lawful (composite (blocks.flatMap (·.layers lg))) := by
  apply forward_inverse
  intro t ht
  apply builtin_lawful lg
  simp only [List.mem_flatMap] at ht
  obtain ⟨B, hB, ht⟩ := ht
  obtain ⟨h1, h2, h3, h4, h5, h6⟩ := hv B hB
  simp only [MAFBlock.layers, List.mem_append, List.mem_cons, List.not_mem_nil, or_false, Option.mem_toList,
    Option.map_eq_some_iff] at ht
  rcases ht with (rfl | rfl) | ⟨p, hp, rfl⟩
  · exact Builtin.permutation _ _ h1 h2
  · exact Builtin.autoregressive _ _ h3 h4 h5
  · exact Builtin.affine _ _ (h6 p hp)

def exMAFBlock : MAFBlock 3 ℚ := ⟨Fin.rev, Fin.rev, exARs, exARt, some (fun _ => 2, fun _ => 1)⟩
theorem exMAFBlock_valid : exMAFBlock.Valid :=
  ⟨Fin.rev_rev, Fin.rev_rev, exARs_prefixDep, exARt_prefixDep, exARs_ne_zero, fun p hp i => by cases hp; exact two_ne_zero⟩

example : Lawful (composite (L := ℚ) ([exMAFBlock, exMAFBlock].flatMap (·.layers (fun a => a)))) :=
  maf_stack_lawful (fun a => a) _ (by simp [exMAFBlock_valid])

/-- **End to end (partial).**  For a flow that is any stack of affine-coupling / masked-autoregressive / LU /
elementwise-affine / permutation layers with arbitrary conditioners (RealNVP with `linear_transform ∈ {None, permutation,
lu}` and MAF, with or without batch norm / actnorm), any base density and any reparameterisation that round-trips at the
generated x'-point, the density `FlowProposal` attaches to a generated physical point equals the density it computes
forwards at that point, and forward after inverse returns the input.  Gap to the property: rational-quadratic spline and
SVD (Householder) layers are covered only through the lawfulness hypothesis of the general theorems; normalisation
(∫ = 1), batch norm in training mode and floating point are not covered. -/
theorem builtin_stack_density_consistent_partial [Field K] [AddCommGroup L] {n : Nat} (lg : K → L)
    (ts : List (Transform (Fin n → K) (Fin n → K) L)) (hts : ∀ t ∈ ts, Builtin lg t)
    (base : (Fin n → K) → L) (R : Transform (Fin n → K) (Fin n → K) L)
    (rescale : Bool) (z : Fin n → K) (hR : rescale = true → RoundTripAt R ((composite ts).inv z).1) :
    Lawful (composite ts) ∧
    fpForwardPass ⟨composite ts, base⟩ R rescale (fpBackwardPass ⟨composite ts, base⟩ R none rescale z).1
      = (z, (fpBackwardPass ⟨composite ts, base⟩ R none rescale z).2) := by
  have hl : Lawful (composite ts) := forward_inverse ts (fun t ht => builtin_lawful lg t (hts t ht))
  exact ⟨hl, gen_density_eq_eval_density_flowproposal ⟨composite ts, base⟩ R rescale z (hl.roundTripAt z) hR⟩

def exStack : List (Transform (Fin 2 → ℚ) (Fin 2 → ℚ) ℚ) :=
  [coupling (fun a => a) (fun i => i.val == 1) (fun c _ => c 0 * c 0 + 1) (fun c _ => c 0), permutation Fin.rev Fin.rev,
    luLinear (fun a => a) (fun _ _ => 5) (fun _ => 3) (fun _ _ => 7) (fun _ => 1)]
theorem exStack_builtin : ∀ t ∈ exStack, Builtin (fun a => a) t := by
  intro t ht
  simp only [exStack, List.mem_cons, List.not_mem_nil, or_false] at ht
  rcases ht with rfl | rfl | rfl
  · exact Builtin.coupling _ _ _ fun c _ _ => mul_self_add_one_ne_zero (c 0)
  · exact Builtin.permutation _ _ Fin.rev_rev Fin.rev_rev
  · exact Builtin.lu _ _ _ _ (fun _ => by norm_num)

example (rescale : Bool) (z : Fin 2 → ℚ) (base : (Fin 2 → ℚ) → ℚ) :
    fpForwardPass ⟨composite exStack, base⟩ exAffineR rescale (fpBackwardPass ⟨composite exStack, base⟩ exAffineR none rescale z).1
      = (z, (fpBackwardPass ⟨composite exStack, base⟩ exAffineR none rescale z).2) :=
  (builtin_stack_density_consistent_partial (fun a => a) exStack exStack_builtin base exAffineR rescale z
    (fun _ => exAffineR_roundTripAt _)).2

/-- the current source performs the three tail operations of `FlowModel.train` in the canonical order (regenerated from
the source on every run) -/
theorem train_tail_is_canonical : Gen.FlowTrain.trainTail = FlowTrain.canonical := by decide

/-- **The canonical order is the ONLY order of the three operations that leaves a consistent flow.**  For every
identifier of the last-epoch weights, of the stale constant and of the best-epoch weights (all different), running the
tail in the source's order leaves the model with the best weights, a normalisation constant computed for THEM, and a
weights file holding exactly that; each of the other five orders leaves the model or the file inconsistent (finalise
before restore: seeded C08-eA; save before finalise: seeded C12-d). -/
theorem train_tail_good_iff_canonical (last stale best : Nat) (h1 : best ≠ last) (h2 : best ≠ stale) (ops : List FlowTrain.Op)
    (hp : ops.Perm FlowTrain.canonical) :
    FlowTrain.Good best (FlowTrain.run best (FlowTrain.St.afterLoop last stale) ops) ↔ ops = FlowTrain.canonical :=
  -- the saved constant alone forces restore, finalise, save in this order among the operations; there are only three
  ⟨fun hg => ((FlowTrain.canonical_of_fileNormFor h1 h2 hg.2.2.2).eq_of_length_le hp.length_eq.le).symm,
   fun h => h ▸ ⟨rfl, rfl, rfl, rfl⟩⟩

example : FlowTrain.Good 1 (FlowTrain.run 1 (FlowTrain.St.afterLoop 0 9) Gen.FlowTrain.trainTail) := by decide

end NessaiVerif.C08
