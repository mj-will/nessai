import NessaiVerif.Proofs.LiveSetInv
import NessaiVerif.Proofs.LiveSetTx
/-
C01 — the live set evolves only by likelihood-constrained replacement.

`Inv init s` (Proofs/LiveSetInv.lean) is the loop invariant: `live` has `n ≥ 1` points in ascending
likelihood order, `nested` is non-decreasing and below every live point, `nested ++ live` is a
permutation of `init ++ hist` (the initial live set plus the accepted replacements), and the
counts of nested samples, insertion indices and accepted points all equal the iteration number.

Scope: `consume` is one atomic step.  Checkpoint + resume is the identity on this state only for
checkpoints written at iteration boundaries (`update_state`, end of run).  A checkpoint written inside
`consume_sample` (`checkpoint_on_training=True`, or a signal handler) is NOT covered:
`resume_mid_consume_breaks_inv` below is the machine-checked counter-example; on the real code these are the
known findings `NestedSampler.train_proposal:checkpoint_on_training:checkpoint-inside-consume_sample` (F54 for C01; F25 for C12)
and `NestedSampler.consume_sample:interrupt-between-evidence-increment-and-insertion-index` (F4, C13).
-/
namespace NessaiVerif.C01
open NessaiVerif.Np NessaiVerif.LiveSet

/-- `populate_live_points` establishes the invariant: exactly `n` points, sorted, all with a finite
log-prior (the `isfinite` screen), iteration stamp 0, and they are exactly the screened draws
(candidates failing `logP != -inf`, `logL > -inf` — NaN and `-inf` likelihoods — or with a non-finite
prior are skipped), nothing recorded yet. -/
theorem populate_inv (n : Nat) (hn : 1 ≤ n) (cands rest : List Cand) (s : St)
    (h : populate (St.new n) cands = .ok (s, rest)) :
    Inv s.live s ∧ s.live.length = n ∧ SortedL s.live ∧ s.iter = 0 ∧ s.nested = [] ∧ s.idx = [] ∧
    (∀ p ∈ s.live, p.logP = .fin ∧ p.it = 0) ∧
    ∃ used, cands = used ++ rest ∧ s.live.Perm (used.filterMap storeOf) := by
  obtain ⟨used, lmax, hu, hlen, rfl⟩ := populate_spec h
  have hperm := sortKey_perm (used.filterMap storeOf)
  have hI := inv_new lmax hn (hperm.length_eq.trans hlen) (sorted_sortKey _)
  refine ⟨hI, hI.len, hI.sorted, rfl, rfl, rfl, fun p hp => ?_, used, hu, hperm⟩
  obtain ⟨c, _, hc⟩ := List.mem_filterMap.mp (hperm.mem_iff.mp hp)
  obtain ⟨v, _, hfin, rfl⟩ := storeOf_some hc
  exact ⟨hfin, rfl⟩

example : Inv Ex.s0.live Ex.s0 ∧ Ex.s0.live.length = 3 ∧ SortedL Ex.s0.live ∧ Ex.s0.iter = 0 ∧ Ex.s0.nested = [] ∧
    Ex.s0.idx = [] ∧ (∀ p ∈ Ex.s0.live, p.logP = .fin ∧ p.it = 0) ∧
    ∃ used, Ex.cands0 = used ++ Ex.rest0 ∧ Ex.s0.live.Perm (used.filterMap storeOf) :=
  populate_inv 3 (by omega) Ex.cands0 Ex.rest0 Ex.s0 Ex.populate_s0

example : Ex.s0.live.map (·.id) = [2, 1, 5] := by decide

/-- **One iteration.**  From any state satisfying the invariant, a successful `consume_sample`
removes exactly the head of the live set, which is a minimum; skips every candidate failing the
filter; inserts the first candidate `c` that passes it, as a point `p` with `c`'s identity, prior
class and in-bounds attribute, stamped with the new iteration, with `p.logL` **strictly** above the
removed likelihood; the new live set is `insSorted p tail` (every other point untouched, relative
order kept); the removed point is appended once to `nested`; the recorded index is the position
`p` occupies, and is `< n`. -/
theorem consume_step (init : List Pt) (s s' : St) (cands rest : List Cand) (hI : Inv init s)
    (h : consume s cands = .ok (s', rest)) : StepOK s s' cands rest := by
  obtain ⟨w, t, c, v, pre, hlive, hc, hacc, hrej, rfl⟩ := consume_spec h
  exact ⟨w, t, c, mkPt c v (s.iter + 1), pre, hlive, hI.head_le hlive, hc, hrej, (accepts_some hacc).1, rfl, rfl, rfl, rfl,
    lt_of_accepts hacc, rfl, rfl, rfl, getElem?_insSorted_rankIn _ t, hI.rankIn_lt hlive _, rfl, rfl, rfl, rfl⟩

example : StepOK Ex.s0 Ex.s1 Ex.rest0 Ex.rest1 :=
  consume_step _ _ _ _ _ Ex.inv_s0 Ex.consume_s0

/-- The invariant is preserved by every successful iteration (size `n`, sortedness, nested
non-decreasing, nothing lost or duplicated, accounts aligned). -/
theorem consume_preserves_inv (init : List Pt) (s s' : St) (cands rest : List Cand) (hI : Inv init s)
    (h : consume s cands = .ok (s', rest)) : Inv init s' :=
  consume_inv hI h

example : Inv Ex.s0.live Ex.s1 := consume_preserves_inv _ _ _ _ _ Ex.inv_s0 Ex.consume_s0

/-- **Every run.**  After any number `k` of iterations on any candidate stream, from any state
satisfying the invariant: the invariant holds, the live set still has exactly `n` points and the
iteration counter advanced by `k`. -/
theorem run_inv (init : List Pt) (k : Nat) (s s' : St) (cands rest : List Cand) (hI : Inv init s)
    (h : runSteps k s cands = .ok (s', rest)) :
    Inv init s' ∧ s'.live.length = s.n ∧ s'.iter = s.iter + k := by
  obtain ⟨hI', hit, hn⟩ := runSteps_inv hI h
  exact ⟨hI', by rw [hI'.len, hn], hit⟩

example : Inv Ex.s0.live Ex.s2 ∧ Ex.s2.live.length = 3 ∧ Ex.s2.iter = 0 + 2 :=
  run_inv _ 2 Ex.s0 Ex.s2 Ex.rest0 [] Ex.inv_s0 Ex.run2_s0

/-- Every single iteration of every run satisfies the step property: the `j`-th state of a run
satisfies the invariant, so `consume_step` applies to the `j+1`-st call. -/
theorem run_every_step (init : List Pt) (j : Nat) (s sj sj' : St) (cands cj cj' : List Cand)
    (hI : Inv init s) (hj : runSteps j s cands = .ok (sj, cj)) (hc : consume sj cj = .ok (sj', cj')) :
    StepOK sj sj' cj cj' ∧ runSteps (j + 1) s cands = .ok (sj', cj') :=
  ⟨consume_step init sj sj' cj cj' (runSteps_inv hI hj).1 hc, by rw [runSteps_succ, hj]; exact hc⟩

example : StepOK Ex.s0 Ex.s1 Ex.rest0 Ex.rest1 :=
  (run_every_step _ 0 Ex.s0 Ex.s0 Ex.s1 Ex.rest0 Ex.rest0 _ Ex.inv_s0 rfl Ex.consume_s0).1

/-- The removed point is the current minimum of the live set. -/
theorem removed_is_minimum (init : List Pt) (s s' : St) (cands rest : List Cand) (hI : Inv init s)
    (h : consume s cands = .ok (s', rest)) :
    ∃ w, s.live.head? = some w ∧ s'.nested = s.nested ++ [w] ∧ ∀ y ∈ s.live, w.logL ≤ y.logL := by
  obtain ⟨w, t, c, v, pre, hlive, -, -, -, rfl⟩ := consume_spec h
  exact ⟨w, by rw [hlive]; rfl, rfl, hI.head_le hlive⟩

example : ∃ w, Ex.s0.live.head? = some w ∧ Ex.s1.nested = Ex.s0.nested ++ [w] ∧ ∀ y ∈ Ex.s0.live, w.logL ≤ y.logL :=
  removed_is_minimum _ _ _ _ _ Ex.inv_s0 Ex.consume_s0

/-- Every other live point is left untouched: the new live set is the old one without its head,
split in two at one place, with the new point in between — and the split is after exactly the points
strictly below the new one (with ties, the new point goes *before* its equals: `searchsorted`
side `left`). -/
theorem others_untouched (init : List Pt) (s s' : St) (cands rest : List Cand) (hI : Inv init s)
    (h : consume s cands = .ok (s', rest)) :
    ∃ p a b, s.live.tail = a ++ b ∧ s'.live = a ++ p :: b ∧
      (∀ y ∈ a, y.logL < p.logL) ∧ (∀ y ∈ b, p.logL ≤ y.logL) := by
  obtain ⟨w, t, c, v, pre, hlive, -, -, -, rfl⟩ := consume_spec h
  obtain ⟨a, b, ht, hl, -, hlt, hge⟩ :=
    insSorted_split (mkPt c v (s.iter + 1)) t (List.pairwise_cons.mp (hlive ▸ hI.sorted)).2
  exact ⟨mkPt c v (s.iter + 1), a, b, by rw [hlive]; exact ht, hl, hlt, hge⟩

example : ∃ p a b, Ex.s0.live.tail = a ++ b ∧ Ex.s1.live = a ++ p :: b ∧
    (∀ y ∈ a, y.logL < p.logL) ∧ (∀ y ∈ b, p.logL ≤ y.logL) :=
  others_untouched _ _ _ _ _ Ex.inv_s0 Ex.consume_s0

set_option linter.unusedVariables false in -- the invariant is not needed: this holds of every successful call
/-- The replacement is strictly above the removed likelihood, has a log-prior different from `-inf`,
and is one of the proposed candidates, unmodified (identity, prior class, in-bounds attribute:
`c.inB = true → p.inB = true`). -/
theorem replacement_strict (init : List Pt) (s s' : St) (cands rest : List Cand) (hI : Inv init s)
    (h : consume s cands = .ok (s', rest)) :
    ∃ w p c, s.live.head? = some w ∧ p ∈ s'.live ∧ c ∈ cands ∧ w.logL < p.logL ∧ c.logP ≠ .ninf ∧
      p.id = c.id ∧ p.logP = c.logP ∧ (c.inB = true → p.inB = true) ∧ s'.hist = s.hist ++ [p] := by
  obtain ⟨w, t, c, v, pre, hlive, rfl, hacc, -, rfl⟩ := consume_spec h
  exact ⟨w, mkPt c v (s.iter + 1), c, by rw [hlive]; rfl, (insSorted_perm _ t).mem_iff.mpr List.mem_cons_self, by simp,
    lt_of_accepts hacc, (accepts_some hacc).1, rfl, rfl, id, rfl⟩

example : ∃ w p c, Ex.s0.live.head? = some w ∧ p ∈ Ex.s1.live ∧ c ∈ Ex.rest0 ∧ w.logL < p.logL ∧ c.logP ≠ .ninf ∧
    p.id = c.id ∧ p.logP = c.logP ∧ (c.inB = true → p.inB = true) ∧ Ex.s1.hist = Ex.s0.hist ++ [p] :=
  replacement_strict _ _ _ _ _ Ex.inv_s0 Ex.consume_s0

/-- The recorded insertion index is the position the new point actually occupies in the new live
set; it lies in `[0, n)`; every point before it is strictly below the new point and every point after
it is not below (so with ties the index is the *first* admissible position). -/
theorem index_is_position (init : List Pt) (s s' : St) (cands rest : List Cand) (hI : Inv init s)
    (h : consume s cands = .ok (s', rest)) :
    ∃ (i : Nat) (p : Pt), s'.idx = s.idx ++ [(i : Int)] ∧ i < s.n ∧ s'.live[i]? = some p ∧
      s'.hist = s.hist ++ [p] ∧
      (∀ j y, j < i → s'.live[j]? = some y → y.logL < p.logL) ∧
      (∀ j y, i < j → s'.live[j]? = some y → p.logL ≤ y.logL) := by
  obtain ⟨w, t, c, v, pre, hlive, -, -, -, rfl⟩ := consume_spec h
  obtain ⟨a, b, -, hl, hlen, hbelow, habove⟩ :=
    insSorted_split (mkPt c v (s.iter + 1)) t (List.pairwise_cons.mp (hlive ▸ hI.sorted)).2
  refine ⟨rankIn (mkPt c v (s.iter + 1)) t, mkPt c v (s.iter + 1), rfl, hI.rankIn_lt hlive _,
    getElem?_insSorted_rankIn _ t, rfl, ?_, ?_⟩
  · intro j y hj (hy : (insSorted _ t)[j]? = some y)
    rw [← hlen] at hj
    rw [hl] at hy
    exact hbelow y ((mem_of_getElem?_append_cons hy).1 hj)
  · intro j y hj (hy : (insSorted _ t)[j]? = some y)
    rw [← hlen] at hj
    rw [hl] at hy
    exact habove y ((mem_of_getElem?_append_cons hy).2 hj)

example : ∃ (i : Nat) (p : Pt), Ex.s1.idx = Ex.s0.idx ++ [(i : Int)] ∧ i < Ex.s0.n ∧ Ex.s1.live[i]? = some p ∧
    Ex.s1.hist = Ex.s0.hist ++ [p] ∧
    (∀ j y, j < i → Ex.s1.live[j]? = some y → y.logL < p.logL) ∧
    (∀ j y, i < j → Ex.s1.live[j]? = some y → p.logL ≤ y.logL) :=
  index_is_position _ _ _ _ _ Ex.inv_s0 Ex.consume_s0

/-- Consequences for the records at any point of any run: the discarded likelihoods are
non-decreasing; `nested ++ live` is a permutation of the initial live set plus the accepted
replacements — every discarded point recorded exactly once, none lost; one insertion index per
iteration, all in `[0, n)`; `logLmin` is the last discarded likelihood. -/
theorem run_records (init : List Pt) (k : Nat) (s s' : St) (cands rest : List Cand) (hI : Inv init s)
    (h : runSteps k s cands = .ok (s', rest)) :
    SortedL s'.nested ∧ (s'.nested ++ s'.live).Perm (init ++ s'.hist) ∧
    s'.nested.length = s'.iter ∧ s'.idx.length = s'.iter ∧ s'.hist.length = s'.iter ∧
    (∀ i ∈ s'.idx, 0 ≤ i ∧ i < (s'.n : Int)) ∧
    (∀ w, s'.nested.getLast? = some w → s'.logLmin = some w.logL) := by
  have hI' := (runSteps_inv hI h).1
  exact ⟨hI'.nsorted, hI'.perm, hI'.nlen, hI'.ilen, hI'.hlen, hI'.irange, hI'.lmin⟩

example : SortedL Ex.s1.nested ∧ (Ex.s1.nested ++ Ex.s1.live).Perm (Ex.s0.live ++ Ex.s1.hist) := by
  have := run_records Ex.s0.live 1 Ex.s0 Ex.s1 Ex.rest0 Ex.rest1 Ex.inv_s0 Ex.run1_s0
  exact ⟨this.1, this.2.1⟩

/-- With distinct identities (initial points and accepted candidates pairwise different) no
discarded point is recorded twice and no recorded point is still live. -/
theorem run_recorded_once (init : List Pt) (k : Nat) (s s' : St) (cands rest : List Cand) (hI : Inv init s)
    (h : runSteps k s cands = .ok (s', rest)) (hd : ((init ++ s'.hist).map (·.id)).Nodup) :
    ((s'.nested ++ s'.live).map (·.id)).Nodup :=
  ((runSteps_inv hI h).1.perm.map _).nodup_iff.mpr hd

example : ((Ex.s1.nested ++ Ex.s1.live).map (·.id)).Nodup :=
  run_recorded_once Ex.s0.live 1 Ex.s0 Ex.s1 Ex.rest0 Ex.rest1 Ex.inv_s0 Ex.run1_s0 (by decide)

/-- `finalise` appends the remaining live points in order: the complete record is non-decreasing in
likelihood, contains every initial point and every accepted replacement exactly once, and its length
is `iterations + n`. -/
theorem finalise_complete (init : List Pt) (s : St) (hI : Inv init s) :
    SortedL (finalise s).nested ∧ (finalise s).nested.Perm (init ++ s.hist) ∧
    (finalise s).nested.length = s.iter + s.n ∧ (finalise s).live = [] := by
  refine ⟨hI.sorted_append, hI.perm, ?_, rfl⟩
  show (s.nested ++ s.live).length = _
  rw [List.length_append, hI.nlen, hI.len]

example : (finalise Ex.s1).nested.map (·.id) = [2, 7, 1, 5] ∧ SortedL (finalise Ex.s1).nested :=
  ⟨by decide, (finalise_complete _ _ (consume_preserves_inv _ _ _ _ _ Ex.inv_s0 Ex.consume_s0)).1⟩

/-- The sampling step never fails inside `insert_live_point`: on a non-empty live set the only way
`consume_sample` does not complete is a proposal that stops producing acceptable points; and any
stream containing an acceptable candidate completes. -/
theorem consume_completes (s : St) (cands : List Cand) (w : Pt) (t : List Pt) (hl : s.live = w :: t) :
    (consume s cands = .error .exhausted ∨ ∃ s' rest, consume s cands = .ok (s', rest)) ∧
    ((∃ c ∈ cands, (accepts (some w.logL) c).isSome) → ∃ s' rest, consume s cands = .ok (s', rest)) := by
  rw [consume_cons hl]
  cases hloop : consumeLoop (some w.logL) cands 0 0 with
  | none =>
    refine ⟨Or.inl rfl, fun hc => ?_⟩
    have := consumeLoop_some_of_mem (some w.logL) cands 0 0 hc
    simp [hloop] at this
  | some r => exact ⟨Or.inr ⟨_, _, rfl⟩, fun _ => ⟨_, _, rfl⟩⟩

example : ∃ s' rest, consume Ex.s0 Ex.rest0 = .ok (s', rest) :=
  (consume_completes Ex.s0 Ex.rest0 ⟨2, 3, 0, .fin, true⟩ _ rfl).2 ⟨⟨7, .fin 5, .fin 5, .fin, true, true⟩, by decide, by decide⟩

/-- Why the strict filter is load-bearing: `insert_live_point` called with a point **not** strictly
above the minimum computes `index = 0` and its slice assignment `live[:-1] = live[1:0]` cannot be
broadcast — for every live set of two or more points the call raises instead of inserting. -/
theorem insertLive_fails_at_zero (w : Pt) (t : List Pt) (p : Pt) (h : p.logL ≤ w.logL) (ht : t ≠ []) :
    insertLive (w :: t) p = .error .shape := by
  unfold insertLive
  rw [ssl_map_logL, rankIn_cons_ge p w t h]
  -- `live[1:0]` is empty, `live[:-1]` is not
  exact if_pos fun h0 : 0 = t.length + 1 - 1 => ht (List.eq_nil_of_length_eq_zero h0.symm)

example : insertLive Ex.s0.live ⟨6, 3, 1, .fin, true⟩ = .error .shape :=
  insertLive_fails_at_zero _ _ _ (by decide) (by decide)

/-- …and with a single live point (`n = 1`) the same call silently *replaces* the point with a
not-better one and reports index `-1`: the filter, not `insert_live_point`, enforces strictness. -/
theorem insertLive_at_zero_single (w p : Pt) (h : p.logL ≤ w.logL) :
    insertLive [w] p = .ok ([p], -1) := by
  unfold insertLive
  rw [ssl_map_logL, rankIn_cons_ge p w [] h]
  rfl

example : insertLive [⟨2, 3, 0, .fin, true⟩] ⟨6, 3, 1, .fin, true⟩ = .ok ([⟨6, 3, 1, .fin, true⟩], -1) :=
  insertLive_at_zero_single _ _ (by decide)

/-- **The source of `insert_live_point` IS the modelled slice program** (translation tie).  `Gen/LiveSetTx.lean` is
regenerated on every run from the current text of `NestedSampler.insert_live_point` by `harness/pyarr2lean.py`, statement by
statement, in the Python/NumPy indexing semantics of `Model/PySlice.lean` (negative indices, clipped slice bounds, NumPy's
refusal to broadcast a slice assignment of the wrong length — validated against NumPy itself on every run).  For every live
set and every point the generated definition returns exactly what the hand-written `insertLive` returns: the same new live
set and reported index, or the same exception (`ValueError` ↦ `shape`, `IndexError` ↦ `index`).  All theorems of this file
about `insertLive` are therefore theorems about what the source says now. -/
theorem insert_live_point_source_eq_model (live : List Pt) (p : Pt) :
    (Gen.LiveSetTx.insert_live_point live p).mapError LiveSetTx.toLS = insertLive live p := by
  unfold Gen.LiveSetTx.insert_live_point insertLive
  have hle := ssl_le_length (live.map (·.logL)) p.logL
  simp only [List.length_map] at hle
  generalize ssl (live.map (·.logL)) p.logL = idx at hle
  dsimp only
  cases idx with
  | zero =>
    -- `live[:-1] = live[1:0]` assigns an empty list to a slice of length `n - 1`, then `live[-1] = p`; the three arms:
    -- `n = 0` assignment accepted, then IndexError; `n = 1` accepted, `p` replaces the point; `n ≥ 2` ValueError
    rw [LiveSetTx.getSlice_one_zero live, show (((0 : Nat) : Int) - (1 : Int)) = -1 from rfl,
      LiveSetTx.setSlice_neg_one_nil]
    match live with
    | [] => rfl
    | [w] => rfl
    | w :: x :: t => simp [bind, Except.bind, Except.mapError, LiveSetTx.toLS]
  | succ k =>
    -- `live[:k] = live[1:k+1]`, then `live[k] = p`
    have hlen : ((live.take (k + 1)).drop 1).length = k := by
      rw [List.length_drop, List.length_take, Nat.min_eq_left hle, Nat.add_sub_cancel]
    have hl2 : k < ((live.take (k + 1)).drop 1 ++ live.drop k).length := by
      rw [List.length_append, hlen, List.length_drop]; omega
    have hn0 : ¬ (live.length = 0) := by omega
    rw [show (((k + 1 : Nat) : Int) - (1 : Int)) = (k : Int) by omega, LiveSetTx.getSlice_one live k hle,
      LiveSetTx.setSlice_prefix live _ k (by omega) hlen]
    simp only [bind, Except.bind]
    rw [LiveSetTx.setItem_nat _ k hl2]
    simp only [Nat.add_one_ne_zero, if_false, Nat.add_sub_cancel, hlen, ne_eq, not_true_eq_false, hn0]
    rfl

/-- applied: the generated definition run on a concrete live set (new point of likelihood 4 into likelihoods 3, 5, 7: the
worst point leaves, the new one lands at index 0), and on the call that NumPy rejects -/
example : Gen.LiveSetTx.insert_live_point Ex.s0.live ⟨6, 4, 1, .fin, true⟩ =
    .ok ([⟨6, 4, 1, .fin, true⟩, ⟨1, 5, 0, .fin, true⟩, ⟨5, 7, 0, .fin, true⟩], 0) := by rfl

example : (Gen.LiveSetTx.insert_live_point Ex.s0.live ⟨6, 3, 1, .fin, true⟩).mapError LiveSetTx.toLS = .error .shape := by
  rw [insert_live_point_source_eq_model]; exact insertLive_fails_at_zero _ _ _ (by decide) (by decide)

/-- The filter of `yield_sample`: an accepted candidate has `logP ≠ -inf` and a finite likelihood
strictly above `logLmin`, where the likelihood is the stored one unless that is `0.0` (falsy), in
which case it is re-evaluated through the model; a stored NaN is never re-evaluated and never accepted. -/
theorem filter_spec (m : Option Int) (c : Cand) (v : Int) (h : accepts m c = some v) :
    c.logP ≠ .ninf ∧ gtMin v m = true ∧
    ((c.stored = .fin 0 ∧ c.eval = .fin v) ∨ (c.stored ≠ .fin 0 ∧ c.stored = .fin v)) ∧ c.stored ≠ .nan := by
  obtain ⟨hp, he, hg⟩ := accepts_some h
  unfold effL at he
  by_cases h0 : c.stored = .fin 0
  · rw [if_pos h0] at he
    exact ⟨hp, hg, Or.inl ⟨h0, he⟩, by rw [h0]; simp⟩
  · rw [if_neg h0] at he
    exact ⟨hp, hg, Or.inr ⟨h0, he⟩, by rw [he]; simp⟩

example : gtMin 7 (some 3) = true :=
  (filter_spec (some 3) ⟨5, .fin 0, .fin 7, .fin, true, true⟩ 7 (by decide)).2.1

example : accepts (some 3) ⟨5, .fin 0, .fin 7, .fin, true, true⟩ = some 7 ∧
    accepts (some 3) ⟨5, .nan, .fin 7, .fin, true, true⟩ = none ∧
    accepts (some 3) ⟨5, .fin 3, .fin 7, .fin, true, true⟩ = none := by decide

/-- **Finite prior and in-bounds, under the proposal contract.**  If every candidate the proposal
returns has a log-prior that is finite or `-inf`, and is in bounds whenever its log-prior is finite
(nessai's proposals compute `logP` with `model.log_prior`, which is `-inf` outside the bounds), and the
initial points are finite-prior and in bounds, then at every point of every run every live and every
recorded point has a finite prior and lies inside the bounds. -/
theorem run_prior_finite_in_bounds (init : List Pt) (k : Nat) (s s' : St) (cands rest : List Cand)
    (hI : Inv init s)
    (hinit : ∀ p ∈ init ++ s.hist, p.logP = .fin ∧ p.inB = true)
    (hcontract : ∀ c ∈ cands, (c.logP = .fin ∨ c.logP = .ninf) ∧ (c.logP = .fin → c.inB = true))
    (h : runSteps k s cands = .ok (s', rest)) :
    ∀ p ∈ s'.nested ++ s'.live, p.logP = .fin ∧ p.inB = true := by
  -- carried through the run: the invariant, finite in-bounds points so far, the contract on the remaining stream
  have := runSteps_induction
    (P := fun _ x cs => Inv init x ∧ (∀ p ∈ init ++ x.hist, p.logP = .fin ∧ p.inB = true) ∧
      ∀ c ∈ cs, (c.logP = .fin ∨ c.logP = .ninf) ∧ (c.logP = .fin → c.inB = true))
    ⟨hI, hinit, hcontract⟩
    (fun _ x cs x' r ⟨hx, hfin, hcon⟩ hc => by
      have hx' := consume_inv hx hc
      obtain ⟨w, t, c, v, pre, hlive, rfl, hacc, _, rfl⟩ := consume_spec hc
      refine ⟨hx', fun q hq => ?_, fun y hy => hcon y (by simp [hy])⟩
      rcases List.mem_append.mp ((List.append_assoc ..).symm ▸ hq : q ∈ (init ++ x.hist) ++ [_]) with hq | hq
      · exact hfin q hq
      · obtain ⟨hc1, hc2⟩ := hcon c (by simp)
        have hf : c.logP = .fin := hc1.resolve_right (accepts_some hacc).1
        rw [List.mem_singleton.mp hq]
        exact ⟨hf, hc2 hf⟩)
    h
  exact fun p hp => this.2.1 p (this.1.perm.mem_iff.mp hp)

example : ∀ p ∈ Ex.s1.nested ++ Ex.s1.live, p.logP = .fin ∧ p.inB = true :=
  run_prior_finite_in_bounds Ex.s0.live 1 Ex.s0 Ex.s1 Ex.rest0 Ex.rest1 Ex.inv_s0 (by decide) (by decide) Ex.run1_s0

/-- The contract is needed: the sampler itself only tests `logP != -inf`, so a candidate whose
log-prior is NaN (or `+inf`) is accepted into the live set by `consume_sample` — only
`populate_live_points` screens with `isfinite`. -/
theorem run_prior_finite_fails_without :
    (consume Ex.s0 [⟨7, .fin 5, .fin 5, .nan, false, true⟩]).toOption.map
        (fun r => r.1.live.map (fun p => (p.id, p.logP, p.inB)))
      = some [(7, .nan, false), (1, .fin, true), (5, .fin, true)] := by decide

/-- **The invariant does not survive a checkpoint written inside `consume_sample`.**  `consume` is
`beginConsume` (record the worst point, count the iteration) followed by `finishConsume` (replace it).
The state after `beginConsume` alone — what a mid-iteration checkpoint pickles — violates the invariant
(one insertion index short; `nested ++ live` holds the worst point twice), and the resumed run, which
restarts `consume_sample` from the top on that state, records the same point a second time and stays one
insertion index short for ever.  Concrete 3-point state `Ex.s0`. -/
theorem resume_mid_consume_breaks_inv :
    Inv Ex.s0.live Ex.s0 ∧
    (∀ cands, consume Ex.s0 cands = finishConsume Ex.m0 cands) ∧
    beginConsume Ex.s0 = some Ex.m0 ∧ ¬ Inv Ex.s0.live Ex.m0 ∧
    consume Ex.m0 Ex.rest0 = .ok (Ex.m1, Ex.rest1) ∧
    Ex.m1.nested.map (·.id) = [2, 2] ∧ Ex.m1.idx.length + 1 = Ex.m1.iter ∧
    ¬ (Ex.m1.nested ++ Ex.m1.live).Perm (Ex.s0.live ++ Ex.m1.hist) ∧ ¬ Inv Ex.s0.live Ex.m1 := by
  refine ⟨Ex.inv_s0, ?_, Ex.begin_s0, ?_, Ex.consume_m0, by decide, by decide, ?_, ?_⟩
  · intro cands
    rw [consume_eq_begin_finish, Ex.begin_s0]
  · intro h
    exact absurd h.ilen (by decide)
  · intro h
    exact absurd h.length_eq (by decide)
  · intro h
    exact absurd h.ilen (by decide)

example : ¬ Inv Ex.s0.live Ex.m1 := resume_mid_consume_breaks_inv.2.2.2.2.2.2.2.2

end NessaiVerif.C01
